/-
  C17 — labels and map_err change how a failure is described, never whether or where.

  `G.eraseDeco` replaces every `labelled(l)` / `labelled(l).as_context()` / `map_err(f)` node by the identity wrapper
  `.boxed` (which keeps the model's fuel aligned). Lemmas: Proofs/Lemmas/DescSim.lean.
-/
import ChumskyModel.Proofs.Lemmas.DescSim
import ChumskyModel.Proofs.Lemmas.ExtDeco
import ChumskyModel.Proofs.Lemmas.ExtDecoS
namespace Chumsky

/-- **C17 (class of the property: no recovery strategy under a decoration).** Adding `labelled`, `as_context` or a
    span-preserving `map_err` anywhere never changes acceptance, the output, the final position/inspector/context,
    the number of errors, or any error span (secondary and primary): the decorated and the undecorated parse are
    equal up to the *descriptions* of the errors. -/
theorem c17_erasure (n : Nat) (env : Env) (hm : env.memoOn = false) (hek : env.ek ≠ .empty) (dr : Bool)
    (hd : DecoSafeDefs dr env) (m : Mode) (g : G) (hg : g.decoSafe dr = true) :
    TopSim (parseTop n env m g) (parseTop n { env with defs := env.defs.map G.eraseDeco } m g.eraseDeco) :=
  parseTop_decoSim n env hm hek dr hd m g hg

/-- the same at the level of runs, from related states (so it composes under any context) -/
theorem c17_erasure_run (n : Nat) (env : Env) (hm : env.memoOn = false) (hek : env.ek ≠ .empty) (dr : Bool)
    (hd : DecoSafeDefs dr env) (m : Mode) (g : G) (hg : g.decoSafe dr = true) (st1 st2 : St) (hs : StSim st1 st2) :
    OutSim (run n env m g st1) (run n { env with defs := env.defs.map G.eraseDeco } m g.eraseDeco st2) :=
  run_decoSim n env hm hek dr hd m g hg st1 st2 hs

/-- **every grammar** (recovery under decorations included): decorations never change whether a parse fails, the
    output, the cursor, the inspector, the context, or the number of errors -/
theorem c17_erasure_any_grammar (n : Nat) (env : Env) (hm : env.memoOn = false) (hek : env.ek ≠ .empty) (m : Mode) (g : G) :
    TopSimW (parseTop n env m g) (parseTop n { env with defs := env.defs.map G.eraseDeco } m g.eraseDeco) :=
  parseTop_decoSim_weak n env hm hek m g

/-- the label clause, at the decorated node (machine level): when the labelled parser's pending error sits at the
    parser's very first token the error lists the label in place of its own expectations … -/
theorem c17_label_at_start (env : Env) (e : Err) (l : Nat) (exp : List Pat) (fo : Option Nat)
    (hek : env.ek = .rich) (he : e.reason = .ef exp fo) :
    (env.ek.labelWith e l).reason = .ef [.label l] fo ∧ (env.ek.labelWith e l).span = e.span := by
  simp [ErrKind.labelWith, hek, he]

/-- … when it sits further in, the inner expectations are kept and `as_context` adds (label, span from the labelled
    parser's start to the failure) — once -/
theorem c17_context_added (env : Env) (e : Err) (l : Nat) (sp : Nat × Nat) (hek : env.ek = .rich)
    (hfresh : e.ctx.all (fun c => c.1 != .label l) = true) :
    (env.ek.inContext e l sp).reason = e.reason ∧ (env.ek.inContext e l sp).span = e.span ∧
      (env.ek.inContext e l sp).ctx = e.ctx ++ [(.label l, sp)] := by
  simp [ErrKind.inContext, hek, hfresh]

theorem c17_context_once (env : Env) (e : Err) (l : Nat) (sp : Nat × Nat) (hek : env.ek = .rich)
    (hdup : e.ctx.all (fun c => c.1 != .label l) = false) : env.ek.inContext e l sp = e := by
  simp [ErrKind.inContext, hek, hdup]

/-- `map_err`'s function is applied to exactly the error produced by a failure of its parser (what is pending when
    the inner run, started from an empty pending error, fails), and to nothing when it succeeds -/
theorem c17_map_err_on_failure (n : Nat) (env : Env) (m : Mode) (k : Nat) (a : G) (st st1 : St) (e : Loc)
    (ha : run n env m a { st with alt := none } = .fail st1) (he : st1.alt = some e) :
    run (n + 1) env m (.mapErr k a) st =
      .fail (St.readdAlt env { st1 with alt := st.alt } (some ⟨e.pos, env.ek.labelWith e.err k⟩)) := by
  simp only [run, step_eqs, ha, he]

theorem c17_map_err_on_success (n : Nat) (env : Env) (m : Mode) (k : Nat) (a : G) (st st1 : St) (v : Val)
    (ha : run n env m a { st with alt := none } = .ok v st1) :
    run (n + 1) env m (.mapErr k a) st = .ok v (St.readdAlt env { st1 with alt := st.alt } st1.alt) := by
  simp only [run, step_eqs, ha]

/-- **observation outside the property's class** (recorded in DESIGN.md): a label over `recover_with` does change
    which error the recovery reports (the decorated run shelters the pending error, so the strategy's
    `take_alt()` sees only the inner failure) — kernel-checked witnesses -/
theorem c17_label_over_recovery_witness :
    (parseTop 10 decoCexEnv .emit (decoCexG (.then_ .any .any))).spans = some (true, [(0, 1)]) ∧
    (parseTop 10 { decoCexEnv with defs := decoCexEnv.defs.map G.eraseDeco } .emit
      (decoCexG (.then_ .any .any)).eraseDeco).spans = some (true, [(1, 2)]) :=
  decoCex_secondary

/-- non-vacuity: a labelled, context-giving grammar of the class on a rejected input -/
example :
    let g : G := .then_ (.just [97]) (.labelled 2 true (.then_ (.just [98]) (.mapErr 3 (.just [99]))))
    g.decoSafe false = true ∧
    (match parseTop 12 { toks := [97, 98, 120], memoOn := false } .emit g with
      | .result r _ => (r.output, r.errs)
      | _ => (none, [])) = (none, [⟨(2, 3), .ef [.label 3] (some 120), [(.label 2, (1, 2))]⟩]) := by
  decide +kernel

/-- **every grammar with extensions** (`EEnv`: any number of Pratt tables and nested-input parsers containing each other): erasing
    the decorations everywhere — main grammar, definitions, atom and operator parsers of every table, both parsers of every nested
    parse — never changes acceptance, the output (incl. every span handed to an operator callback), the cursor, the inspector,
    the context, or the number of errors. Proof: `pratt_go` preserves the simulation of its atom / operator parsers through all
    its rewinds (`prattGo_sim`, for the strong and the weak relation alike); `NestedIn::go` preserves the weak one across the
    sub-context (`nestedStep_simW`); one induction ties the knot (`runE_simW`). -/
theorem c17_extensions_erasure_any_grammar (e : EEnv) (n : Nat) (env : Env) (hm : env.memoOn = false) (hek : env.ek ≠ .empty)
    (m : Mode) (g : G) :
    TopSimW (parseTopE e n env m g)
      (parseTopE (e.erase true) n { env with defs := env.defs.map G.eraseDeco } m g.eraseDeco) :=
  parseTopE_decoSim_weak e n env hm hek m g

/-- at the level of runs, from related states -/
theorem c17_extensions_erasure_run (e : EEnv) (n : Nat) (env : Env) (hm : env.memoOn = false) (hek : env.ek ≠ .empty) (m : Mode)
    (g : G) (st1 st2 : St) (hs : StSimW st1 st2) :
    OutSimW (runE e n env m g st1)
      (runE (e.erase true) n { env with defs := env.defs.map G.eraseDeco } m g.eraseDeco st2) :=
  runE_decoSim_weak e n env hm hek m g st1 st2 hs

/-- non-vacuity: a labelled Pratt table inside a labelled nested parse — `x * G` with `G = [x, +, y]`; decorated and erased
    parses both accept and end at the same position -/
example :
    let e : EEnv := { base := 100, gap := 1, groups := [(1000, [120, 43, 121])],
                      exts := [.pratt (.labelled 1 true (.or_ (.oneOf [120, 121]) (.call 101)))
                                 [.infix true 1 (.labelled 2 false (.just [43])), .infix true 2 (.mapErr 3 (.just [42]))],
                               .nested (.labelled 4 true (.call 100)) (.select [1000])] }
    let env : Env := { toks := [120, 42, 1000], kind := .mapped, tspans := layoutSpans 1 3 0, eoi := (10, 10), memoOn := false }
    ((match parseTopE e 60 env .emit (.labelled 5 false (.call 100)) with
      | .result r f => (r.output.isSome, r.errs.length, f.pos) | _ => (false, 99, 0)),
     (match parseTopE (e.erase true) 60 { env with defs := env.defs.map G.eraseDeco } .emit (G.labelled 5 false (.call 100)).eraseDeco with
      | .result r f => (r.output.isSome, r.errs.length, f.pos) | _ => (false, 99, 0))) = ((true, 0, 3), (true, 0, 3)) := by
  decide +kernel

/-- **the class of the property, with extensions**: no recovery strategy under a decoration — in the grammar, in the definitions and
    in the parsers of the extensions (`EEnv.Adm`: an extension may be referenced anywhere outside decorations, and under one only
    if `dr`, in which case its parsers are recovery free): the decorated and the undecorated parse agree on acceptance, output,
    final position / inspector / context, the number of errors AND ALL THEIR SPANS (secondary and primary) — through the operator
    rewinds of `pratt_go` and across the sub-contexts of nested parses (`nestedStep_simS`: the inner run starts with nothing
    sheltered, and what it leaves is re-homed and merged alike in both runs). -/
theorem c17_extensions_erasure (e : EEnv) (n : Nat) (env : Env) (hm : env.memoOn = false) (hek : env.ek ≠ .empty) (dr : Bool)
    (hd : DecoSafeDefs dr env) (hx : e.Adm true dr) (m : Mode) (g : G) (hg : g.decoSafe dr = true) :
    TopSim (parseTopE e n env m g)
      (parseTopE (e.erase true) n { env with defs := env.defs.map G.eraseDeco } m g.eraseDeco) :=
  parseTopE_decoSim e n env hm hek dr hd hx m g hg

/-- non-vacuity: the labelled front end of the example above meets the hypotheses with `dr = true` (its extensions are
    recovery free, so they may be referenced under the labels) -/
example :
    let e : EEnv := { base := 100, gap := 1, groups := [(1000, [120, 43, 121])],
                      exts := [.pratt (.labelled 1 true (.or_ (.oneOf [120, 121]) (.call 101)))
                                 [.infix true 1 (.labelled 2 false (.just [43])), .infix true 2 (.mapErr 3 (.just [42]))],
                               .nested (.labelled 4 true (.call 100)) (.select [1000])] }
    e.Adm true true ∧ (G.labelled 5 false (.call 100)).decoSafe true = true := by
  refine ⟨?_, by decide⟩
  intro x hx u _
  simp only [List.mem_cons, List.mem_nil_iff, or_false] at hx
  rcases hx with rfl | rfl <;> cases u <;> decide

#print axioms c17_extensions_erasure
#print axioms c17_extensions_erasure_any_grammar
#print axioms c17_extensions_erasure_run
#print axioms c17_erasure
#print axioms c17_erasure_run
#print axioms c17_erasure_any_grammar
#print axioms c17_label_at_start
#print axioms c17_context_added
#print axioms c17_context_once
#print axioms c17_map_err_on_failure
#print axioms c17_map_err_on_success
#print axioms c17_label_over_recovery_witness
end Chumsky
