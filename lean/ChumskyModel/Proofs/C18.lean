/-
  C18 — user state and inspectors see a history consistent with the parse.

  The inspector of the model is the list of tokens it has been fed (the harness keeps `(count, hash)`, a function
  of that list); its checkpoint is a snapshot.
-/
import ChumskyModel.Proofs.Lemmas.ExtAll
import ChumskyModel.Proofs.Lemmas.Top
import ChumskyModel.Proofs.Lemmas.SpecInv
import ChumskyModel.Proofs.Lemmas.PrattInv
import ChumskyModel.Proofs.Lemmas.NestedOk
namespace Chumsky

/-- **C18 (machine = reading).** However much backtracking, lookahead or recovery happened, after a successful run
    the machine's inspector is the one of the PEG reading (which never rewinds anything). -/
theorem c18_machine_inspector (n : Nat) (env : Env) (m : Mode) (g : G) (st : St) (hm : env.memoOn = false) :
    match run n env m g st, peg n env g st.ss st.ctx with
    | .ok _ st', .ok _ s' _ => st'.insp = s'.insp ∧ st'.pos = s'.pos
    | .ok _ _, _ => False
    | _, _ => True :=
  (run_refines n env m g st hm).inspector

/-- **C18 (invariant).** Outside `with_state` scopes the inspector of the reading equals the state obtained by
    feeding it exactly the tokens before the current position: a successful sub-parse from `s` to `s'` feeds exactly
    the tokens between the two positions — every observation (`map_with`, fold callbacks, `select`) reads this state. -/
theorem c18_fed (n : Nat) (env : Env) (hdefs : ∀ d ∈ env.defs, d.noStateScope = true) (g : G)
    (hg : g.noStateScope = true) (s : SS) (ctx : Val) {v s' em} (h : peg n env g s ctx = .ok v s' em) :
    s.pos ≤ s'.pos ∧ s'.insp = s.insp ++ (env.toks.drop s.pos).take (s'.pos - s.pos) :=
  peg_fed' n env hdefs g hg s ctx h

theorem c18_prefix_invariant (n : Nat) (env : Env) (hdefs : ∀ d ∈ env.defs, d.noStateScope = true) (g : G)
    (hg : g.noStateScope = true) (ctx : Val) {s : SS} {v s' em} (hs : s.pos ≤ env.toks.length)
    (hi : s.insp = env.toks.take s.pos) (h : peg n env g s ctx = .ok v s' em) :
    s'.insp = env.toks.take s'.pos :=
  peg_insp_prefix n env hdefs g hg ctx hs hi h

/-- what an observation node reads: the inspector at its own end position -/
theorem c18_observation (n : Nat) (env : Env) (a : G) (s : SS) (ctx : Val) {v s1 e1}
    (ha : peg n env a s ctx = .ok v s1 e1) :
    peg (n + 1) env (.mapWithState a) s ctx = .ok (.pair v (.insp s1.insp)) s1 e1 := by
  simp [peg, step_eqs, SOut.andThen, ha]

/-- **after a successful parse the state has seen exactly the whole input** (machine level, any mode) -/
theorem c18_final_state (n : Nat) (env : Env) (m : Mode) (g : G) (hm : env.memoOn = false)
    (hg : g.noStateScope = true) (hdefs : ∀ d ∈ env.defs, d.noStateScope = true) (r : ParseResult) (f : St)
    (h : parseTop n env m g = .result r f) (v : Val) (ho : r.output = some v) :
    f.insp = env.toks ∧ f.pos = env.toks.length := by
  have ht := parseTop_refines n env m g hm
  rw [h] at ht
  cases hp : pegTop n env g <;> rw [hp] at ht <;> simp only [TopRefines] at ht
  · rename_i v' s em
    have := pegTop_insp n env g hp hg hdefs
    have hs := ht.2.1
    simp [St.ss] at hs
    cases hs
    exact this
  · rw [ho] at ht; simp at ht

/-- `with_state` gives its sub-parser a fresh copy of the given state on every invocation and leaves the outer
    state untouched -/
theorem c18_with_state (n : Nat) (env : Env) (a : G) (s : SS) (ctx : Val) :
    peg (n + 1) env (.withState a) s ctx =
      match peg n env a ⟨s.pos, []⟩ ctx with
      | .ok v s1 e1 => .ok v ⟨s1.pos, s.insp⟩ e1
      | o => o :=
  peg_withState n env a s ctx

theorem c18_with_state_outer_untouched (n : Nat) (env : Env) (a : G) (s : SS) (ctx : Val) {v s' em}
    (h : peg n env (.withState a) s ctx = .ok v s' em) : s'.insp = s.insp :=
  peg_withState_insp n env a s ctx h

theorem c18_with_state_inner_fresh (n : Nat) (env : Env) (hdefs : ∀ d ∈ env.defs, d.noStateScope = true) (a : G)
    (ha : a.noStateScope = true) (s : SS) (ctx : Val) {v s1 e1} (h : peg n env a ⟨s.pos, []⟩ ctx = .ok v s1 e1) :
    s.pos ≤ s1.pos ∧ s1.insp = (env.toks.drop s.pos).take (s1.pos - s.pos) :=
  peg_withState_inner n env hdefs a ha s ctx h

/-- non-vacuity: observation after backtracking over a consumed token and a lookahead -/
example :
    (match parseTop 12 { toks := [97, 98], memoOn := false } .emit
        (.or_ (.then_ (.just [97]) (.just [97]))
              (.then_ (.andIs .any (.not_ (.just [98]))) (.mapWithState .any))) with
      | .result r f => (r.output, f.insp)
      | _ => (none, [])) = (some (.pair (.tok 97) (.pair (.tok 98) (.insp [97, 98]))), [97, 98]) := by
  decide +kernel

/-! ### Pratt parsers (the property's class includes C09) -/

/-- **C18 for `atom.pratt(ops)`.** A successful Pratt parse from `s` to `s'` has fed the inspector exactly the tokens
    between the two positions — whatever operators matched and were rewound because their operand was missing. -/
theorem c18_pratt_fed (fuel : Nat) (env : Env) (hdefs : ∀ d ∈ env.defs, d.noStateScope = true) (atom : G)
    (hatom : atom.noStateScope = true) (ops : List PrattOp) (hops : ∀ o ∈ ops, o.parser.noStateScope = true)
    (s : SS) (ctx : Val) {v s' em} (h : pegPratt fuel env atom ops s ctx = .ok v s' em) :
    s.pos ≤ s'.pos ∧ s'.insp = s.insp ++ (env.toks.drop s.pos).take (s'.pos - s.pos) :=
  pegPratt_fed fuel env hdefs atom hatom ops hops s ctx h

/-- after a successful `parse` / `check` of a Pratt parser the state has seen exactly the whole input (machine level) -/
theorem c18_pratt_final_state (fuel : Nat) (env : Env) (m : Mode) (hm : env.memoOn = false)
    (hdefs : ∀ d ∈ env.defs, d.noStateScope = true) (atom : G) (hatom : atom.noStateScope = true) (ops : List PrattOp)
    (hops : ∀ o ∈ ops, o.parser.noStateScope = true) (r : ParseResult) (f : St)
    (h : parseTopPratt fuel env m atom ops = .result r f) (v : Val) (ho : r.output = some v) :
    f.insp = env.toks ∧ f.pos = env.toks.length :=
  parseTopPratt_final_state fuel env m hm hdefs atom hatom ops hops r f h v ho

/-- recursive expression grammars `recursive(|e| atom.pratt(ops))`: the same at every grammar position, through any depth
    of parentheses -/
theorem c18_recursive_pratt_fed (x : XEnv) (n : Nat) (env : Env) (hdefs : ∀ d ∈ env.defs, d.noStateScope = true)
    (hatom : x.atom.noStateScope = true) (hops : ∀ o ∈ x.ops, o.parser.noStateScope = true) (g : G)
    (hg : g.noStateScope = true) (s : SS) (ctx : Val) {v s' em} (h : pegX x n env g s ctx = .ok v s' em) :
    s.pos ≤ s'.pos ∧ s'.insp = s.insp ++ (env.toks.drop s.pos).take (s'.pos - s.pos) :=
  pegX_fed x n env hdefs hatom hops g hg s ctx h

/-- **machine = reading in grammars with extensions** (`EEnv`: Pratt tables and nested-input parsers containing each other): after
    a successful run the machine's inspector is the one of the reading — which never rewinds: through the operator rewinds of
    `pratt_go` and across nested inputs (the inner parse continues the SAME inspector, `with_input` shares it, and what the inner
    parse fed stays fed in the outer one) nothing an abandoned path fed survives and nothing the surviving path fed is lost -/
theorem c18_extensions_machine_inspector (e : EEnv) (n : Nat) (env : Env) (m : Mode) (g : G) (st : St)
    (hm : env.memoOn = false) :
    match runE e n env m g st, pegE e n env g st.ss st.ctx with
    | .ok _ st', .ok _ s' _ => st'.insp = s'.insp ∧ st'.pos = s'.pos
    | .ok _ _, _ => False
    | _, _ => True :=
  (runE_refines e n env m g st hm).inspector

/-- the reading of a nested parse: the inner parse starts from the inspector state left by `b` and what it leaves is the
    state after the nested parse — the inspector sees the group token and then the inner tokens the surviving inner path
    consumed, in that order -/
theorem c18_nested_inspector_threaded (P : SRunner) (h : HEnv) (env : Env) (s : SS) (ctx : Val) {v s' em}
    (hok : nestedStepS P h env s ctx = .ok v s' em) :
    ∃ vb s1 e1 kids si, P env h.b s ctx = .ok vb s1 e1 ∧ h.kidsOf vb = some kids ∧
      (∃ e2, innerThenEndS (P (h.innerEnv env kids) h.a ⟨0, s1.insp⟩ ctx) (fun si1 => P (h.innerEnv env kids) .end_ si1 ctx)
        = .ok v si e2) ∧ s' = ⟨s1.pos, si.insp⟩ := by
  obtain ⟨vb, s1, e1, kids, si, e2, hb, hk, hi, hs, _⟩ := nestedStepS_ok P h env s ctx hok
  exact ⟨vb, s1, e1, kids, si, hb, hk, ⟨e2, hi⟩, hs⟩

#print axioms c18_extensions_machine_inspector
#print axioms c18_nested_inspector_threaded
#print axioms c18_pratt_fed
#print axioms c18_pratt_final_state
#print axioms c18_recursive_pratt_fed
#print axioms c18_machine_inspector
#print axioms c18_fed
#print axioms c18_prefix_invariant
#print axioms c18_observation
#print axioms c18_final_state
#print axioms c18_with_state
#print axioms c18_with_state_outer_untouched
#print axioms c18_with_state_inner_fresh
end Chumsky
