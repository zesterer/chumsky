/-
  C08 — error recovery is transparent on success, loud on failure, and never silent.
-/
import ChumskyModel.Proofs.Lemmas.ExtResult
import ChumskyModel.Proofs.Lemmas.Top
import ChumskyModel.Proofs.Lemmas.PegLaws
import ChumskyModel.Proofs.Lemmas.NestedDelims
namespace Chumsky

/-- **C08 (refinement).** `recover_with` with each strategy, arbitrarily nested, refines the recovery reading
    (this is the master refinement; restated for the three recovery constructors so it cannot be weakened silently). -/
theorem c08_refines (n : Nat) (env : Env) (m : Mode) (st : St) (hm : env.memoOn = false) (a r skip until_ : G) (fb : Val) :
    Refines m st.errs st.ctx (run n env m (.recoverVia a r) st) (peg n env (.recoverVia a r) st.ss st.ctx) ∧
    Refines m st.errs st.ctx (run n env m (.recoverSkipUntil a skip until_ fb) st)
      (peg n env (.recoverSkipUntil a skip until_ fb) st.ss st.ctx) ∧
    Refines m st.errs st.ctx (run n env m (.recoverSkipRetry a skip until_) st)
      (peg n env (.recoverSkipRetry a skip until_) st.ss st.ctx) :=
  ⟨run_refines n env m _ st hm, run_refines n env m _ st hm, run_refines n env m _ st hm⟩

/-! ### the recovery reading -/

/-- transparent wherever the parser succeeds (all three strategies) -/
theorem c08_transparent (n : Nat) (env : Env) (a r skip until_ : G) (fb : Val) (s : SS) (ctx : Val) {v s' em}
    (h : peg n env a s ctx = .ok v s' em) :
    peg (n + 1) env (.recoverVia a r) s ctx = .ok v s' em ∧
    peg (n + 1) env (.recoverSkipUntil a skip until_ fb) s ctx = .ok v s' em ∧
    peg (n + 1) env (.recoverSkipRetry a skip until_) s ctx = .ok v s' em := by
  simp [peg, step_eqs, h]

/-- where the parser fails and the strategy succeeds: the strategy's output, its emissions, plus exactly one
    extra reported error (emitted last, at the position the strategy ended) -/
theorem c08_via_recovers (n : Nat) (env : Env) (a r : G) (s : SS) (ctx : Val) {v s1 em}
    (ha : peg n env a s ctx = .fail) (hr : peg n env r s ctx = .ok v s1 em) :
    peg (n + 1) env (.recoverVia a r) s ctx = .ok v s1 (em ++ [.recovered s1.pos]) :=
  pegStep_recoverVia_recovers a r ha hr

/-- where both fail the combinator fails (and, by `c05_atomic`, the caller's state is restorable) -/
theorem c08_via_both_fail (n : Nat) (env : Env) (a r : G) (s : SS) (ctx : Val)
    (ha : peg n env a s ctx = .fail) (hr : peg n env r s ctx = .fail) :
    peg (n + 1) env (.recoverVia a r) s ctx = .fail :=
  pegStep_recoverVia_fail a r ha hr

/-- **never silent.** An error-free result contains no recovered output: in the reading of an error-free accepted
    parse no `recovered` emission occurs, i.e. no recovery branch was taken on the surviving path. -/
theorem c08_never_silent (n : Nat) (env : Env) (m : Mode) (g : G) (hm : env.memoOn = false) (r : ParseResult) (f : St)
    (h : parseTop n env m g = .result r f) (v : Val) (ho : r.output = some v) (he : r.errs = []) :
    ∃ v' s, pegTop n env g = .ok v' s [] := by
  obtain ⟨v', s, h1, _, _⟩ := (h ▸ parseTop_refines n env m g hm).whole_input ho he
  exact ⟨v', s, h1⟩

/-- `skip_until`, one step: give `until` the first chance; only if it fails skip one step and go on -/
theorem c08_skip_until_step (P : SRunner) (env : Env) (ctx : Val) (skip until_ : G) (fb : Val) (fuel : Nat) (s : SS)
    (em : List Emis) :
    sSkipUntil P env ctx skip until_ fb (fuel + 1) s em =
      match P env until_ s ctx with
      | .ok _ s1 em1 => .ok fb s1 (em ++ em1 ++ [.recovered s1.pos])
      | .panic w => .panic w
      | .oof => .oof
      | .fail =>
        match P env skip s ctx with
        | .ok _ s2 em2 => sSkipUntil P env ctx skip until_ fb fuel s2 (em ++ em2)
        | .fail => .fail
        | .panic w => .panic w
        | .oof => .oof := rfl

/-- `k` successful skip steps, `until` failing before each of them -/
inductive SkipPath (P : SRunner) (env : Env) (ctx : Val) (skip until_ : G) : Nat → SS → SS → Prop
  | zero (s) : SkipPath P env ctx skip until_ 0 s s
  | succ {k s s1 s2 v e} : P env until_ s ctx = .fail → P env skip s ctx = .ok v s1 e →
      SkipPath P env ctx skip until_ k s1 s2 → SkipPath P env ctx skip until_ (k + 1) s s2

/-- **minimality.** `skip_until` consumes the fewest skip steps after which `until` matches: if it succeeds,
    there is a `k` such that `until` failed before each of the first `k` skip steps and matches after them. -/
theorem c08_skip_until_min (P : SRunner) (env : Env) (ctx : Val) (skip until_ : G) (fb : Val) :
    ∀ (fuel : Nat) (s : SS) (em : List Emis) {v s' em'},
      sSkipUntil P env ctx skip until_ fb fuel s em = .ok v s' em' →
      ∃ k s0 vu eu, SkipPath P env ctx skip until_ k s s0 ∧ P env until_ s0 ctx = .ok vu s' eu ∧ v = fb := by
  intro fuel
  induction fuel with
  | zero => intro s em v s' em' h; simp [sSkipUntil] at h
  | succ fuel ih =>
    intro s em v s' em' h
    rw [c08_skip_until_step] at h
    cases hu : P env until_ s ctx <;> rw [hu] at h <;> simp only at h <;> try (simp at h)
    · rename_i vu s1 eu
      obtain ⟨h1, h2, _⟩ := h
      subst h1 h2
      exact ⟨0, s, vu, eu, .zero s, hu, rfl⟩
    · cases hs : P env skip s ctx <;> rw [hs] at h <;> simp only at h <;> try (simp at h)
      rename_i vs s2 es
      obtain ⟨k, s0, vu, eu, hp, hu', hv⟩ := ih s2 _ h
      exact ⟨k + 1, s0, vu, eu, .succ hu hs hp, hu', hv⟩

/-! ### which error is reported (machine level) -/

/-- the one extra error is the pending primary error right after the parser failed — "what the parse would have
    reported had the failure been final" (that this is the furthest/merged failure is C06) -/
theorem c08_recovered_error_is_pending (n : Nat) (env : Env) (m : Mode) (a r : G) (st st1 st3 : St) (e : Loc) (v : Val)
    (ha : run n env m a st = .fail st1) (halt : st1.alt = some e)
    (hr : run n env m r { st1.rewind st.save with alt := none } = .ok v st3) :
    run (n + 1) env m (.recoverVia a r) st = .ok v (st3.emit st3.pos e.err) := by
  simp only [run, step_eqs, ha]
  have : (st1.rewind st.save).alt = some e := by simp [halt]
  simp only [this, hr]

/-- where both fail, the pending error is put back and the position is restored -/
theorem c08_both_fail_machine (n : Nat) (env : Env) (m : Mode) (a r : G) (st st1 st3 : St) (e : Loc)
    (ha : run n env m a st = .fail st1) (halt : st1.alt = some e)
    (hr : run n env m r { st1.rewind st.save with alt := none } = .fail st3) :
    run (n + 1) env m (.recoverVia a r) st = .fail ({ st3 with alt := some e }.rewind st.save) := by
  simp only [run, step_eqs, ha]
  have : (st1.rewind st.save).alt = some e := by simp [halt]
  simp only [this, hr]

/-! ### nested_delimiters (`Model/Delims.lean`: the grammar `recovery.rs:234-275` builds; lemmas in Lemmas/NestedDelims.lean) -/

/-- **`nested_delimiters` consumes exactly one balanced delimited region** (every table of delimiter pairs, every input,
    position and fuel): what the strategy matches starts with `start`, ends with `end` — the end position is just after that
    closing delimiter — and the tokens between are balanced: plain tokens, none of them a delimiter, and properly nested
    blocks of the declared pairs. Its output is the span of exactly that region. (`hdef`: the strategy's `recursive` block is
    definition `K`.) -/
theorem c08_nested_delimiters_region {env : Env} {ctx : Val} {K : Nat} {first : Nat × Nat} {others : List (Nat × Nat)}
    (hdef : env.defs[K]? = some (ndBlock K first others)) {n s v s' em}
    (h : peg n env (ndTop K first) s ctx = .ok v s' em) :
    ∃ q, env.toks[s.pos]? = some first.1 ∧ env.toks[q]? = some first.2 ∧ s'.pos = q + 1 ∧
      Balanced (ndSkip first others) (first :: others) (env.seg (s.pos + 1) q) ∧
      v = .span (env.mkSpan s.pos s'.pos).1 (env.mkSpan s.pos s'.pos).2 := by
  obtain ⟨⟨q, ho, hb, hc, hr⟩, hv⟩ := peg_ndTop_region hdef h
  exact ⟨q, ho, hc, hr, hb.balanced, hv⟩

/-- as a recovery strategy: where `p` fails and `nested_delimiters` matches, the result is the fallback for that one
    region, the input is left just after it, and exactly one error is added -/
theorem c08_nested_delimiters_recovers {env : Env} {ctx : Val} {K : Nat} {first : Nat × Nat} {others : List (Nat × Nat)}
    (hdef : env.defs[K]? = some (ndBlock K first others)) {n a s v s' em}
    (ha : peg n env a s ctx = .fail) (h : peg (n + 1) env (.recoverVia a (ndTop K first)) s ctx = .ok v s' em) :
    (∃ q, env.toks[s.pos]? = some first.1 ∧ env.toks[q]? = some first.2 ∧ s'.pos = q + 1 ∧
      Balanced (ndSkip first others) (first :: others) (env.seg (s.pos + 1) q)) ∧
    ∃ e0, em = e0 ++ [.recovered s'.pos] := by
  rw [peg_succ] at h
  simp only [step_eqs, ha] at h
  cases hr : peg n env (ndTop K first) s ctx <;> simp only [hr, reduceCtorEq] at h
  rename_i v1 s1 e1
  simp only [SOut.ok.injEq] at h
  obtain ⟨_, hs, he⟩ := h
  subst hs
  obtain ⟨q, h1, h2, h3, h4, _⟩ := c08_nested_delimiters_region hdef hr
  exact ⟨⟨q, h1, h2, h3, h4⟩, e1, he.symm⟩

/-- an unbalanced region is not skipped: if the token after a balanced prefix of the inside is neither a plain token, nor an
    opening delimiter of a block that closes, nor the closing delimiter, the strategy fails — stated as the contrapositive
    shape used by the check: success implies the closing delimiter is there -/
theorem c08_nested_delimiters_closes {env : Env} {ctx : Val} {K : Nat} {first : Nat × Nat} {others : List (Nat × Nat)}
    (hdef : env.defs[K]? = some (ndBlock K first others)) {n s v s' em}
    (h : peg n env (ndTop K first) s ctx = .ok v s' em) : 2 ≤ s'.pos - s.pos ∧ env.toks[s'.pos - 1]? = some first.2 := by
  obtain ⟨⟨q, _, hb, hc, hr⟩, _⟩ := peg_ndTop_region hdef h
  have := hb.le
  exact ⟨by omega, by rw [hr]; simpa using hc⟩

/-- non-vacuity: `( a [ b ] ) x` — the strategy takes the six tokens of the region and stops before `x` -/
example :
    (match parseTop 40 { toks := [40, 97, 91, 98, 93, 41, 120], defs := [ndBlock 0 (40, 41) [(91, 93)]], memoOn := false } .emit
        (.then_ (.recoverVia (.just [97]) (ndTop 0 (40, 41))) (.collect .string (.repeated .any 0 none))) with
      | .result r f => (r.output, r.errs.length, f.pos)
      | _ => (none, 99, 0)) = (some (.pair (.span 0 6) (.toks [120])), 1, 7) := by
  decide +kernel

/-- … and an unbalanced region `( [ )` is not accepted by the strategy (both fail) -/
example :
    (match parseTop 40 { toks := [40, 91, 41], defs := [ndBlock 0 (40, 41) [(91, 93)]], memoOn := false } .emit
        (.recoverVia (.just [97]) (ndTop 0 (40, 41))) with
      | .result r _ => (r.output, r.errs.length)
      | _ => (none, 99)) = (none, 1) := by
  decide +kernel

/-- non-vacuity: skip_until skips exactly two tokens before `until` matches, reporting the original failure -/
example :
    (match parseTop 8 { toks := [120, 121, 98], memoOn := false } .emit
        (.recoverSkipUntil (.just [97]) .any (.just [98]) (.nat 7)) with
      | .result r f => (r.output, r.errs, f.pos)
      | _ => (none, [], 0)) = (some (.nat 7), [⟨(0, 1), .ef [.tok 97] (some 120), []⟩], 3) := by
  decide +kernel

/-! ### recovery around (and inside) the extensions — a Pratt expression that does not parse, a group whose inner sequence is
  ill-formed: `recover_with` in a grammar with extensions (`EEnv`) obeys the same three laws, the sub-parsers being read by `pegE`
  (so `a` or the fallback may be, or contain, an extension reference), and the machine refines that reading -/

theorem c08_extensions_refines (e : EEnv) (n : Nat) (env : Env) (m : Mode) (st : St) (hm : env.memoOn = false) (a r : G) :
    Refines m st.errs st.ctx (runE e n env m (.recoverVia a r) st) (pegE e n env (.recoverVia a r) st.ss st.ctx) :=
  runE_refines e n env m _ st hm

theorem c08_extensions_transparent (e : EEnv) (n : Nat) (env : Env) (a r : G) (s : SS) (ctx : Val) {v s' em}
    (h : pegE e n env a s ctx = .ok v s' em) : pegE e (n + 1) env (.recoverVia a r) s ctx = .ok v s' em :=
  pegStep_recoverVia_ok (N := pegNextE e n) (K := pegMkE e n) (L := n) a r h

theorem c08_extensions_via_recovers (e : EEnv) (n : Nat) (env : Env) (a r : G) (s : SS) (ctx : Val) {v s1 em}
    (ha : pegE e n env a s ctx = .fail) (hr : pegE e n env r s ctx = .ok v s1 em) :
    pegE e (n + 1) env (.recoverVia a r) s ctx = .ok v s1 (em ++ [.recovered s1.pos]) :=
  pegStep_recoverVia_recovers (N := pegNextE e n) (K := pegMkE e n) (L := n) a r ha hr

theorem c08_extensions_via_both_fail (e : EEnv) (n : Nat) (env : Env) (a r : G) (s : SS) (ctx : Val)
    (ha : pegE e n env a s ctx = .fail) (hr : pegE e n env r s ctx = .fail) :
    pegE e (n + 1) env (.recoverVia a r) s ctx = .fail :=
  pegStep_recoverVia_fail (N := pegNextE e n) (K := pegMkE e n) (L := n) a r ha hr

/-- never silent: an accepted, error-free parse of a grammar with extensions is a success of the reading without emissions -/
theorem c08_extensions_never_silent (e : EEnv) (n : Nat) (env : Env) (m : Mode) (g : G) (hm : env.memoOn = false)
    (r : ParseResult) (f : St) (h : parseTopE e n env m g = .result r f) (v : Val) (ho : r.output = some v)
    (he : r.errs = []) : ∃ v' s, pegTopE e n env g = .ok v' s [] := by
  obtain ⟨v', s, h1, _, _⟩ := (h ▸ parseTopE_refines e n env m g hm).whole_input ho he
  exact ⟨v', s, h1⟩

#print axioms c08_extensions_refines
#print axioms c08_extensions_transparent
#print axioms c08_extensions_via_recovers
#print axioms c08_extensions_via_both_fail
#print axioms c08_extensions_never_silent
#print axioms c08_refines
#print axioms c08_transparent
#print axioms c08_via_recovers
#print axioms c08_via_both_fail
#print axioms c08_never_silent
#print axioms c08_skip_until_min
#print axioms c08_recovered_error_is_pending
#print axioms c08_both_fail_machine
#print axioms c08_nested_delimiters_region
#print axioms c08_nested_delimiters_recovers
#print axioms c08_nested_delimiters_closes
end Chumsky
