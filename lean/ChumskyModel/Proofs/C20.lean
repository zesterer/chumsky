/-
  C20 — parsing is total: every input yields a result, never a panic, hang or crash.

  What a model can carry: (1) the "can't fail" `unwrap()`s on the pending error never fire and a failure is always
  reported through the error list; (2) well-formed grammars never panic (the progress `debug_assert!`s never fire);
  (3) non-recursive well-formed grammars terminate within an explicit fuel bound (fuel bounds recursion depth and loop
  iterations). Native stack exhaustion, out-of-bounds and mid-character accesses are runtime facts: the check runs the
  real crate under `catch_unwind` + watchdog on every stream and on malformed inputs (partial, see DESIGN.md).
  Lemmas: Proofs/Lemmas/{Total,Guarded,ExtTotal}.lean (+ Master, SpecInv).
-/
import ChumskyModel.Proofs.Lemmas.Total
import ChumskyModel.Proofs.Lemmas.Top
import ChumskyModel.Proofs.Lemmas.Guarded
import ChumskyModel.Proofs.Lemmas.PrattTotal
import ChumskyModel.Proofs.Lemmas.PrattTerm
import ChumskyModel.Proofs.Lemmas.ExtTotal
namespace Chumsky

/-- **the "can't fail" unwraps never fire** (every grammar, every input, wrapped in `recover_with`, `map_err`,
    `labelled` however deep): `parse`/`check` never panic at `take_alt().unwrap()`. -/
theorem c20_unwraps_never_fire (n : Nat) (env : Env) (m : Mode) (g : G) (hm : env.memoOn = false) :
    parseTop n env m g ≠ .panic pUnwrapRecovery ∧ parseTop n env m g ≠ .panic pUnwrapMapErr :=
  parseTop_no_unwrap_panic n env m g hm

/-- the invariant behind it: a failing run always leaves a pending error (for every error type, the zero-sized one
    included) -/
theorem c20_failure_leaves_pending_error (n : Nat) (env : Env) (m : Mode) (g : G) (st st' : St) (hm : env.memoOn = false)
    (h : run n env m g st = .fail st') : st'.alt.isSome = true :=
  (h ▸ run_refines n env m g st hm).fail_alt

/-- **failure is always reported through the error list** (every grammar, no hypothesis) -/
theorem c20_failure_reported (n : Nat) (env : Env) (m : Mode) (g : G) (r : ParseResult) (f : St)
    (h : parseTop n env m g = .result r f) (ho : r.output = none) : r.errs ≠ [] :=
  Out.top_no_output (parseTop_eq_top n env m g ▸ h) ho

/-- **well-formed grammars never panic** (`G.wf`: no `todo`, non-empty tuple choice, well-typed iterator use, every
    loop over an iterator that can yield an item without consuming is one that tolerates it — i.e. repetition items
    consume input; recursion allowed, definitions well-formed) -/
theorem c20_wf_no_panic {cd : Nat → Bool} (n : Nat) (env : Env) (m : Mode) (g : G) (hm : env.memoOn = false)
    (hg : g.wf cd env.defs.length = true) (hd : DefsWf cd env) (w : Nat) : parseTop n env m g ≠ .panic w :=
  parseTop_wf_no_panic n env m g hm hg hd w

/-- the syntactic "consumes at least one token" analysis used by `wf` is sound for the reading -/
theorem c20_consumes_sound {cd : Nat → Bool} (n : Nat) (env : Env) (hcd : CDefs cd env) (g : G) (s : SS) (ctx : Val)
    {v s' em} (hc : g.consumes cd = true) (h : peg n env g s ctx = .ok v s' em) : s.pos < s'.pos :=
  peg_consumes n env hcd g s ctx hc h

/-- **termination, non-recursive well-formed grammars** (`G.wfTerm`: additionally the recovery `skip` parsers consume
    and looped iterators advance): fuel `depth(g) + |input| + 2` always suffices — `parse`/`check` return a result. -/
theorem c20_terminates (n : Nat) (env : Env) (m : Mode) (g : G) (hm : env.memoOn = false)
    (hg : g.wfTerm = true) (hn : g.depth + env.toks.length + 2 ≤ n) :
    ∃ r final, parseTop n env m g = .result r final :=
  parseTop_terminates n env m g hm hg hn

/-- **termination, guarded recursive grammars** (the whole syntax): neither out of fuel nor a panic, from every state, within
    `guardedFuel env g = depth g + maxDefDepth · (|input| + 1) + |input| + 1` — the class the property calls "recursion
    guarded, repeated items consume input" (`DefsGuarded`, `G.mainOk`: well-formed, loops advance, every recursive reference
    behind a consumed token) -/
theorem c20_guarded_terminates {cd : Nat → Bool} (n : Nat) (env : Env) (m : Mode) (g : G) (st : St)
    (hm : env.memoOn = false) (hd : DefsGuarded cd env = true) (hg : g.mainOk cd env.defs.length = true)
    (hn : guardedFuel env g ≤ n) :
    run n env m g st ≠ .oof ∧ ∀ w, run n env m g st ≠ .panic w :=
  run_guarded_terminates n env m g st hm hd hg hn

/-- why `wfTerm` asks the recovery `skip` parser to consume: `skip_until(empty(), ..)` never terminates (the real
    loop in `recovery.rs` has no progress check either) — a hypothesis of the property ("repeated items consume
    input") that has to be read as covering recovery skip parsers -/
theorem c20_nonconsuming_skip_hangs (env : Env) (he : env.toks = []) (hm : env.memoOn = false) (n : Nat) (m : Mode) :
    parseTop n env m hangSkipUntil = .oof :=
  hangSkipUntil_parseTop env he hm n m

/-- **finding (known_findings.json, D15).** `Then` of two iterable parsers asserts progress unless *both* sides
    tolerate non-consumption, so `any().repeated().then(empty().to(x).or_not()).collect()` trips the debug assertion
    on a one-token input although every repeated item consumes and the iteration is finite -/
theorem c20_then_iter_assertion_witness :
    peg 6 { toks := [5] } thenMix ⟨0, []⟩ .unit = .panic pNoProgress :=
  thenMix_panics

/-! ### Pratt parsers (feature `pratt`; `Model/Pratt.lean`) -/

/-- `pratt_go` adds no panic site: a panic of `atom.pratt(ops)` is a panic of its atom or of an operator parser at one of
    the reference semantics' sites (`todo!()`, a progress assertion, an ill-typed or undefined reference) — in particular
    never an `unwrap()` of the pending error — for every table, input, state and fuel -/
theorem c20_pratt_panic_sites (fuel : Nat) (env : Env) (m : Mode) (atom : G) (ops : List PrattOp) (st : St)
    (hm : env.memoOn = false) {w : Nat} (h : runPratt fuel env m atom ops st = .panic w) :
    w = pTodo ∨ w = pNoProgress ∨ w = pIllTyped ∨ w = pUndefined :=
  runPratt_panic_sites fuel env m atom ops st hm h

/-- a failing Pratt parse always leaves a pending error (so `recover_with` / `map_err` / the top level around it find
    one) -/
theorem c20_pratt_failure_leaves_pending_error (fuel : Nat) (env : Env) (m : Mode) (atom : G) (ops : List PrattOp)
    (st st' : St) (hm : env.memoOn = false) (h : runPratt fuel env m atom ops st = .fail st') :
    st'.alt.isSome = true :=
  runPratt_fail_alt fuel env m atom ops st st' hm h

/-- **termination of `atom.pratt(ops)`**: if the atom and every operator parser are call-free, well-formed, terminating
    (`wfTerm`) and consume input when they succeed (`G.prattOk`), then with fuel `d + |input| + 2` (`d` ≥ the depth of those
    parsers) the Pratt parser returns a result from every position inside the input — every recursion into an operand
    happens after an operator consumed a token, every iteration of the operator loop consumes one. An operator that can
    succeed on nothing makes the real `pratt_go` loop; that is the Pratt counterpart of a nullable repetition item. -/
theorem c20_pratt_terminates (n d : Nat) (env : Env) (m : Mode) (hm : env.memoOn = false) (atom : G) (ops : List PrattOp)
    (hatom : atom.prattOk = true ∧ atom.depth ≤ d) (hops : ∀ o ∈ ops, o.parser.prattOk = true ∧ o.parser.depth ≤ d)
    (hn : d + env.toks.length + 2 ≤ n) (st : St) (hs : st.pos ≤ env.toks.length) :
    runPratt n env m atom ops st ≠ .oof ∧ ∀ w, runPratt n env m atom ops st ≠ .panic w :=
  runPratt_terminates n d env m hm atom ops hatom hops hn st hs

/-- non-vacuity: the table `x | y` with `+` left/1, `*` right/2, prefix `-`/3, postfix `!`/4 meets the hypotheses with d = 2 -/
example :
    let atom : G := .oneOf [120, 121]
    let ops : List PrattOp := [.infix true 1 (.just [43]), .infix false 2 (.just [42]), .prefix 3 (.just [45]),
      .postfix 4 (.just [33])]
    (atom.prattOk = true ∧ atom.depth ≤ 2) ∧ (ops.all fun o => o.parser.prattOk && decide (o.parser.depth ≤ 2)) = true := by
  decide

/-- the same two facts for recursive expression grammars `recursive(|e| atom.pratt(ops))`, at every grammar position -/
theorem c20_recursive_pratt_panic_sites (x : XEnv) (n : Nat) (env : Env) (m : Mode) (g : G) (st : St)
    (hm : env.memoOn = false) {w : Nat} (h : runX x n env m g st = .panic w) :
    w = pTodo ∨ w = pNoProgress ∨ w = pIllTyped ∨ w = pUndefined :=
  runX_panic_sites x n env m g st hm h

theorem c20_recursive_pratt_failure_leaves_pending_error (x : XEnv) (n : Nat) (env : Env) (m : Mode) (g : G)
    (st st' : St) (hm : env.memoOn = false) (h : runX x n env m g st = .fail st') : st'.alt.isSome = true :=
  runX_fail_alt x n env m g st st' hm h

/-- … and for grammars with any number of extensions containing each other — `a.nested_in(b)` at any position, Pratt
    expressions inside nested parses inside Pratt atoms (`EEnv`): `NestedIn::go` and `pratt_go` add no panic site (the model's
    "`b` did not yield a group" code is the undefined-reference site; the Rust types rule it out), and a failing parse leaves
    a pending error -/
theorem c20_extensions_panic_sites (e : EEnv) (n : Nat) (env : Env) (m : Mode) (g : G) (st : St)
    (hm : env.memoOn = false) {w : Nat} (h : runE e n env m g st = .panic w) :
    w = pTodo ∨ w = pNoProgress ∨ w = pIllTyped ∨ w = pUndefined :=
  runE_panic_sites e n env m g st hm h

theorem c20_extensions_failure_leaves_pending_error (e : EEnv) (n : Nat) (env : Env) (m : Mode) (g : G)
    (st st' : St) (hm : env.memoOn = false) (h : runE e n env m g st = .fail st') : st'.alt.isSome = true :=
  runE_fail_alt e n env m g st st' hm h

/-- non-vacuity: the premise of `c20_extensions_panic_sites` is met — a `todo()` inside a nested parse inside a Pratt atom panics
    (site `pTodo`); and the premise of `…failure_leaves_pending_error` — the group holds a token the expression cannot start with -/
example :
    let e : EEnv := { base := 100, gap := 1, groups := [(1000, [120, 43, 7])],
                      exts := [.pratt (.or_ (.oneOf [120, 121]) (.or_ (.call 101) (.ignoreThen (.just [7]) .todo))) [.infix true 1 (.just [43])],
                               .nested (.call 100) (.select [1000])] }
    let env : Env := { toks := [120, 43, 1000], kind := .mapped, tspans := layoutSpans 1 3 0, eoi := (10, 10), memoOn := false }
    runE e 60 env .emit (.call 100) St.init = .panic pTodo := by
  decide +kernel

example :
    let e : EEnv := { base := 100, gap := 1, groups := [(1000, [43])],
                      exts := [.pratt (.or_ (.oneOf [120, 121]) (.call 101)) [.infix true 1 (.just [43])],
                               .nested (.call 100) (.select [1000])] }
    let env : Env := { toks := [1000], kind := .mapped, tspans := layoutSpans 1 1 0, eoi := (4, 4), memoOn := false }
    (match runE e 60 env .emit (.call 100) St.init with
      | .fail st' => st'.alt.isSome
      | _ => false) = true := by
  decide +kernel

#print axioms c20_extensions_panic_sites
#print axioms c20_extensions_failure_leaves_pending_error
#print axioms c20_unwraps_never_fire
#print axioms c20_pratt_panic_sites
#print axioms c20_pratt_failure_leaves_pending_error
#print axioms c20_pratt_terminates
#print axioms c20_recursive_pratt_panic_sites
#print axioms c20_recursive_pratt_failure_leaves_pending_error
#print axioms c20_failure_leaves_pending_error
#print axioms c20_failure_reported
#print axioms c20_wf_no_panic
#print axioms c20_consumes_sound
#print axioms c20_terminates
#print axioms c20_guarded_terminates
#print axioms c20_nonconsuming_skip_hangs
#print axioms c20_then_iter_assertion_witness
end Chumsky
