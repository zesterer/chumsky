/-
  C12 — recursive parsers equal their unrolling and nest to any depth.

  `call k` refers to definition `k` of the table `env.defs` (models `recursive(..)`, `Recursive::declare`/`define`,
  mutual recursion). `G.unroll defs d g` expands every reference `d` levels deep (`.boxed` keeps the fuel aligned) and
  puts `todo` below. Lemmas: Proofs/Lemmas/Unroll.lean.
  Runtime parts (depth limited by memory through `stacker`, not by the native stack; the `define`-twice panic of the
  once-cell) are exercised on the real crate by the check (partial, see DESIGN.md).
-/
import ChumskyModel.Proofs.Lemmas.Unroll
import ChumskyModel.Proofs.Lemmas.Guarded
namespace Chumsky

/-- **C12 (unrolling).** For every definition table (single or mutually recursive), every grammar, mode, state and
    fuel `n`, and every depth `d ≥ n`: the run with the table equals — same outcome, value and whole state — the run
    of the grammar with every reference expanded `d` levels deep, *without* the table. A returned result therefore
    never reached the `todo` at the bottom: the recursion went exactly as deep as the input required. -/
theorem c12_unroll {n d : Nat} (h : d ≥ n) (env : Env) (m : Mode) (g : G) (st : St) :
    run n env m g st = run n { env with defs := [] } m (g.unroll env.defs d) st :=
  run_unroll h env m g st

theorem c12_unroll_parse (n : Nat) (env : Env) (m : Mode) (g : G) :
    parseTop n env m g = parseTop n { env with defs := [] } m (g.unroll env.defs n) :=
  parseTop_unroll n env m g

/-- when every reference is defined, the unrolled grammar contains no reference at all and can be run with any table -/
theorem c12_unroll_closed {n d : Nat} (h : d ≥ n) (env : Env) (hd : callsBelowL env.defs.length env.defs = true)
    (m : Mode) (g : G) (hg : g.callsBelow env.defs.length = true) (ds : List G) (st : St) :
    (g.unroll env.defs d).callFree = true ∧
      run n env m g st = run n { env with defs := ds } m (g.unroll env.defs d) st :=
  run_unroll_closed h env hd m g hg ds st

/-- a reference to an undefined parser is refused loudly (panic), never silently accepted -/
theorem c12_undefined_panics (n : Nat) (env : Env) (m : Mode) (k : Nat) (st : St) (h : env.defs[k]? = none) :
    run (n + 1) env m (.call k) st = .panic pUndefined := by
  simp [run, step_eqs, h]

/-- model of the once-cell behind `Recursive::declare`/`define`: the first definition is kept, a second one panics -/
inductive Cell where
  | empty
  | defined (g : G)

def Cell.define : Cell → G → Except Nat Cell
  | .empty, g => .ok (.defined g)
  | .defined _, _ => .error 77        -- "Parser defined more than once"

theorem c12_define_once (g1 g2 : G) :
    (Cell.empty.define g1).bind (fun c => c.define g2) = .error 77 := rfl

/-- what a program does with ONE `Recursive` handle and its clones (all of them share the cell): define it, parse through it -/
inductive HOp where
  | define (g : G)
  | parse (toks : List Nat)

inductive HOut where
  | defined
  | refused (code : Nat)
  | parsed (r : TopOut)

def Cell.defs : Cell → List G
  | .empty => []
  | .defined g => [g]

def hstep (n : Nat) (env : Env) (m : Mode) (c : Cell) : HOp → Cell × HOut
  | .define g => match c.define g with
    | .ok c' => (c', .defined)
    | .error w => (c, .refused w)
  | .parse toks => (c, .parsed (parseTop n { env with toks := toks, defs := c.defs } m (.call 0)))

def hrun (n : Nat) (env : Env) (m : Mode) : Cell → List HOp → List HOut
  | _, [] => []
  | c, op :: ops => (hstep n env m c op).2 :: hrun n env m (hstep n env m c op).1 ops

/-- **C12 (define-once, histories).** Once a handle is defined, EVERY later history of `define` attempts and parses —
    through the handle or any clone, in any order, any number of times — refuses each attempt and gives each parse the
    result of the FIRST definition: a refused `define` leaves nothing behind. -/
theorem c12_first_definition_wins (n : Nat) (env : Env) (m : Mode) (g : G) (ops : List HOp) :
    hrun n env m (.defined g) ops = ops.map fun
      | .define _ => .refused 77
      | .parse toks => .parsed (parseTop n { env with toks := toks, defs := [g] } m (.call 0)) := by
  induction ops with
  | nil => rfl
  | cons op ops ih => cases op <;> simp [hrun, hstep, Cell.define, Cell.defs, ih]

/-- before the definition every parse through the handle is the loud refusal of an undefined reference, and the
    first `define` is accepted whatever was parsed before it -/
theorem c12_undefined_history (n : Nat) (env : Env) (m : Mode) (inputs : List (List Nat)) (g : G) (ops : List HOp) :
    hrun (n + 2) env m .empty (inputs.map .parse ++ .define g :: ops) =
      inputs.map (fun _ => .parsed (.panic pUndefined)) ++ .defined :: hrun (n + 2) env m (.defined g) ops := by
  induction inputs with
  | nil => simp [hrun, hstep, Cell.define]
  | cons i is ih =>
    simp only [List.map_cons, List.cons_append, hrun, hstep, Cell.defs]
    rw [ih]
    have hp : parseTop (n + 2) { env with toks := i, defs := [] } m (.call 0) = .panic pUndefined := by
      have h := c12_undefined_panics n { env with toks := i, defs := [] } m 0 St.init rfl
      simp only [parseTop]
      rw [show run (n + 2) { env with toks := i, defs := [] } m (.thenIgnore (.call 0) .end_) St.init
            = (run (n + 1) { env with toks := i, defs := [] } m (.call 0) St.init).andThen fun va st1 =>
              (run (n + 1) { env with toks := i, defs := [] } .check .end_ st1).andThen fun _ st2 => .ok va st2 from rfl, h]
      rfl
    rw [hp]

/-- non-vacuity: `expr = '(' expr ')' | 'x'` on "((x))" equals its unrolling -/
example :
    let defs : List G := [.or_ (.delimitedBy (.call 0) (.just [40]) (.just [41])) (.just [120])]
    let env : Env := { toks := [40, 40, 120, 41, 41], defs := defs }
    (match parseTop 12 env .emit (.call 0) with | .result r f => (r.output, f.pos) | _ => (none, 0)) = (some (.toks [120]), 5) ∧
    parseTop 12 env .emit (.call 0) = parseTop 12 { env with defs := [] } .emit ((G.call 0).unroll defs 12) := by
  constructor
  · decide +kernel
  · exact parseTop_unroll 12 _ .emit (.call 0)

/-- **guarded recursion terminates** (every grammar of the whole syntax, single and mutually recursive tables): if a token is
    consumed between the entry of every definition body and each recursive reference in it (`DefsGuarded`, a decidable
    syntactic check built on the "consumes on success" analysis that `c20_consumes_sound` proves sound), `parse`/`check`
    return a result on every input within the explicit fuel `depth g + maxDefDepth · (|input| + 1) + |input| + 2` — fuel
    bounds recursion depth and loop iterations, so the recursion depth a guarded grammar needs is linear in the input. -/
theorem c12_guarded_terminates {cd : Nat → Bool} (n : Nat) (env : Env) (m : Mode) (g : G)
    (hm : env.memoOn = false) (hd : DefsGuarded cd env = true) (hg : g.mainOk cd env.defs.length = true)
    (hn : guardedFuel env g + 1 ≤ n) :
    ∃ r final, parseTop n env m g = .result r final :=
  parseTop_guarded_terminates n env m g hm hd hg hn

/-- the guard is needed: the unguarded `expr = expr 'a' | 'a'` is out of fuel at every fuel (the real crate overflows /
    is cut by the memo marker, see C11) -/
theorem c12_unguarded_left_recursion_diverges (env : Env) (he : env.defs = leftDefs) (hm : env.memoOn = false) (n : Nat)
    (m : Mode) : parseTop n env m (.call 0) = .oof :=
  leftRec_parseTop_oof env he hm n m

/-- non-vacuity: `expr = '(' expr ')' | 'a'` is guarded; every input gets a result with the bound's fuel -/
example (toks : List Nat) (m : Mode) :
    ∃ r final, parseTop (guardedFuel (parenEnv toks) (.call 0) + 1) (parenEnv toks) m (.call 0) = .result r final :=
  paren_terminates toks m

#print axioms c12_unroll
#print axioms c12_unroll_parse
#print axioms c12_unroll_closed
#print axioms c12_undefined_panics
#print axioms c12_define_once
#print axioms c12_first_definition_wins
#print axioms c12_undefined_history
#print axioms c12_guarded_terminates
#print axioms c12_unguarded_left_recursion_diverges
end Chumsky
