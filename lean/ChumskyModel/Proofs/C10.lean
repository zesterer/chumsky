/-
  C10 — the result does not depend on how the input is represented.

  The parser core of the model is written once over a token list (`env.toks[pos]?`). The theorems here justify that for the
  stateful `Input` implementations: for EVERY schedule of `next` calls on previously obtained cursors (arbitrary
  backtracking, including the extra peek that `MappedInput::span` performs at an old cursor), each implementation returns
  exactly what indexing the token list returns, and its cursor locations advance in lock-step. Consequences proved on the
  way: a `Stream` pulls each item from its iterator at most once and in order; `IoInput` reads `bytes[c]` at cursor `c`
  whatever its reader position was before.
  Spans: the three span disciplines and their re-basing are `Env.mkSpan` (theorems in `Proofs/C07.lean`).

  The parser core itself (last section, lemmas in `Proofs/Lemmas/KindSim.lean`): the machine touches the input kind only
  through `Env.mkSpan` / `Env.off`, and the run under ANY kind is the run under the index-based kind with every span and
  slice offset re-based afterwards — for every grammar, mode, fuel and error type (`c10_kind_invariant`).
-/
import ChumskyModel.Proofs.Lemmas.ExtKind
import ChumskyModel.Model.Input
import ChumskyModel.Proofs.Lemmas.KindSim
import ChumskyModel.Proofs.Lemmas.PrattKind

namespace Chumsky
open Input

/-- simulation of the list reference by an implementation: `Good ca cu` = "cursor `cu` is usable with cache `ca`",
    `idx cu` = the token index the cursor denotes -/
structure Sim {Ca Cu : Type} (toks : List Nat) (I : Impl Ca Cu) (Good : Ca → Cu → Prop) (idx : Cu → Nat) : Prop where
  tok : ∀ ca cu, Good ca cu → (I.next ca cu).1 = toks[idx cu]?
  good : ∀ ca cu, Good ca cu → Good (I.next ca cu).2.1 (I.next ca cu).2.2
  adv : ∀ ca cu, Good ca cu → idx (I.next ca cu).2.2 = idx cu + (if (I.next ca cu).1.isSome then 1 else 0)
  stable : ∀ ca cu cu0, Good ca cu → Good ca cu0 → Good (I.next ca cu).2.1 cu0

/-- the reference returns the token at the index and steps over it -/
theorem listImpl_next (toks : List Nat) (i : Nat) :
    (listImpl toks).next () i = (toks[i]?, (), i + (if (toks[i]?).isSome then 1 else 0)) := by
  simp only [listImpl]; cases toks[i]? <;> rfl

/-- one induction over the schedule for both theorems below: `f` is what is observed of each call -/
theorem replay_sim {Ca Cu β : Type} {toks : List Nat} {I : Impl Ca Cu} {Good : Ca → Cu → Prop} {idx : Cu → Nat}
    (h : Sim toks I Good idx) (f : Nat × Option Nat → β) (hf : ∀ cu t, f (I.loc cu, t) = f (idx cu, t)) :
    ∀ (sched : List Nat) (ca : Ca) (cus : List Cu), (∀ cu ∈ cus, Good ca cu) →
      (replay I sched ca cus).map f = (replay (listImpl toks) sched () (cus.map idx)).map f := by
  intro sched
  induction sched with
  | nil => intro ca cus _; rfl
  | cons k ks ih =>
    intro ca cus hg
    simp only [replay, List.length_map, List.getElem?_map]
    cases hc : cus[k % cus.length]? with
    | none => rfl
    | some cu =>
      have hgood := hg cu (List.mem_of_getElem? hc)
      have hg' : ∀ c ∈ cus ++ [(I.next ca cu).2.2], Good (I.next ca cu).2.1 c := by
        intro c hc
        rcases List.mem_append.mp hc with h1 | h1
        · exact h.stable ca cu c hgood (hg c h1)
        · cases List.mem_singleton.mp h1; exact h.good ca cu hgood
      simp only [Option.map_some, List.map_cons, listImpl_next, ih _ _ hg', List.map_append, List.map_nil,
        h.adv ca cu hgood, h.tok ca cu hgood, hf]
      rfl

/-- **any schedule**: the tokens an implementation returns along any schedule of calls on saved cursors are those of the list
    reference along the same schedule -/
theorem replay_agrees {Ca Cu : Type} {toks : List Nat} {I : Impl Ca Cu} {Good : Ca → Cu → Prop} {idx : Cu → Nat}
    (h : Sim toks I Good idx) :
    ∀ (sched : List Nat) (ca : Ca) (cus : List Cu), (∀ cu ∈ cus, Good ca cu) →
      (replay I sched ca cus).map Prod.snd = (replay (listImpl toks) sched () (cus.map idx)).map Prod.snd :=
  replay_sim h Prod.snd (fun _ _ => rfl)

/-- … and the locations the implementation reports are the token indices of the reference -/
theorem replay_locs {Ca Cu : Type} {toks : List Nat} {I : Impl Ca Cu} {Good : Ca → Cu → Prop} {idx : Cu → Nat}
    (h : Sim toks I Good idx) (hloc : ∀ cu, I.loc cu = idx cu) :
    ∀ (sched : List Nat) (ca : Ca) (cus : List Cu), (∀ cu ∈ cus, Good ca cu) →
      replay I sched ca cus = replay (listImpl toks) sched () (cus.map idx) := by
  intro sched ca cus hg
  have := replay_sim h id (fun cu t => by rw [hloc]) sched ca cus hg
  rwa [List.map_id, List.map_id] at this

/-! ### Stream -/

/-- the cache is a prefix of the source, nothing was pulled that is not cached, the cursor lies within the cache -/
def StreamGood (toks : List Nat) (s : StreamCache) (cu : Nat) : Prop :=
  s.cache ++ s.rest = toks ∧ cu ≤ s.cache.length ∧ s.pulls = s.cache

/-- the first half of `Stream::next`: pull a batch when the cursor is at the end of the cache -/
def streamRefill (batch : Nat) (s : StreamCache) (cu : Nat) : StreamCache :=
  if s.cache.length ≤ cu then
    { cache := s.cache ++ s.rest.take batch, rest := s.rest.drop batch, pulls := s.pulls ++ s.rest.take batch }
  else s

/-- … the second half: index the cache -/
theorem streamNext_eq (batch : Nat) (s : StreamCache) (cu : Nat) :
    streamNext batch s cu = ((streamRefill batch s cu).cache[cu]?, streamRefill batch s cu,
      cu + (if ((streamRefill batch s cu).cache[cu]?).isSome then 1 else 0)) := by
  show (match (streamRefill batch s cu).cache[cu]? with | some t => _ | none => _) = _
  cases (streamRefill batch s cu).cache[cu]? <;> rfl

/-- refilling (at any cursor) keeps every usable cursor usable -/
theorem streamRefill_good {toks : List Nat} {s : StreamCache} {cu0 : Nat} (batch cu : Nat) (h : StreamGood toks s cu0) :
    StreamGood toks (streamRefill batch s cu) cu0 := by
  obtain ⟨h1, h2, h3⟩ := h
  unfold streamRefill
  split
  · exact ⟨by rw [List.append_assoc, List.take_append_drop, h1],
      Nat.le_trans h2 (by rw [List.length_append]; exact Nat.le_add_right _ _), by rw [h3]⟩
  · exact ⟨h1, h2, h3⟩

/-- after the refill the cache reaches past the cursor, or the source is exhausted: indexing it is indexing the source -/
theorem streamRefill_get {toks : List Nat} {s : StreamCache} {cu : Nat} {batch : Nat} (hb : 0 < batch)
    (h : StreamGood toks s cu) : (streamRefill batch s cu).cache[cu]? = toks[cu]? := by
  have h1 := (streamRefill_good batch cu h).1
  have hc : cu < (streamRefill batch s cu).cache.length ∨ (streamRefill batch s cu).rest = [] := by
    unfold streamRefill
    split
    · cases hr : s.rest with
      | nil => exact Or.inr List.drop_nil
      | cons r rs =>
        refine Or.inl ?_
        obtain ⟨b, rfl⟩ := Nat.exists_eq_succ_of_ne_zero (Nat.ne_of_gt hb)
        rw [List.length_append, List.take_succ_cons, List.length_cons]
        have := h.2.1
        omega
    · exact Or.inl (Nat.lt_of_not_le ‹_›)
  rcases hc with hc | hc
  · rw [← h1, List.getElem?_append_left hc]
  · rw [← h1, hc, List.append_nil]

theorem stream_sim (toks : List Nat) (batch : Nat) (hb : 0 < batch) :
    Sim toks (streamImpl batch) (StreamGood toks) id := by
  have good : ∀ s cu, StreamGood toks s cu → StreamGood toks (streamNext batch s cu).2.1 (streamNext batch s cu).2.2 := by
    intro s cu g
    have g' := streamRefill_good batch cu g
    rw [streamNext_eq]
    refine ⟨g'.1, ?_, g'.2.2⟩
    show cu + _ ≤ _
    cases hc : (streamRefill batch s cu).cache[cu]? with
    | none => exact g'.2.1
    | some t => exact (List.getElem?_eq_some_iff.mp hc).1
  refine ⟨fun s cu g => ?_, good, fun s cu g => ?_, fun s cu cu0 g g0 => ?_⟩
  · show (streamNext batch s cu).1 = _
    rw [streamNext_eq]; exact streamRefill_get hb g
  · show (streamNext batch s cu).2.2 = cu + (if (streamNext batch s cu).1.isSome then 1 else 0)
    rw [streamNext_eq]
  · show StreamGood toks (streamNext batch s cu).2.1 cu0
    rw [streamNext_eq]; exact streamRefill_good batch cu g0

/-- **a Stream pulls every item at most once and in order, however the parser backtracks**: after any call at a usable
    cursor, what has been pulled so far is a prefix of the source and extends what had been pulled before -/
theorem c10_stream_pulls_once (toks : List Nat) (batch : Nat) (hb : 0 < batch) (s : StreamCache) (cu : Nat)
    (h : StreamGood toks s cu) :
    (streamNext batch s cu).2.1.pulls <+: toks ∧ s.pulls <+: (streamNext batch s cu).2.1.pulls := by
  have g : StreamGood toks (streamNext batch s cu).2.1 (streamNext batch s cu).2.2 := (stream_sim toks batch hb).good s cu h
  obtain ⟨g1, _, g3⟩ := g
  refine ⟨by rw [g3, ← g1]; exact List.prefix_append _ _, ?_⟩
  rw [streamNext_eq]
  show _ <+: (streamRefill batch s cu).pulls
  unfold streamRefill
  split
  · exact List.prefix_append _ _
  · exact List.prefix_refl _

/-- any schedule of calls on a fresh Stream returns the tokens of the list -/
theorem c10_stream_any_schedule (toks : List Nat) (batch : Nat) (hb : 0 < batch) (sched : List Nat) :
    replay (streamImpl batch) sched (streamBegin toks) [0] = replay (listImpl toks) sched () [0] :=
  replay_locs (stream_sim toks batch hb) (fun _ => rfl) sched (streamBegin toks) [0]
    (by intro cu h; cases List.mem_singleton.mp h; exact ⟨rfl, Nat.le_refl _, rfl⟩)

/-! ### IoInput -/

/-- the reader stands where `last_cursor` says (cursors themselves are unconstrained: any position may be asked) -/
def IoGood (toks : List Nat) (s : IoCache) (_ : Nat) : Prop := s.bytes = toks ∧ s.rpos = s.last

/-- with the reader where `last_cursor` says, the seek puts both at the cursor asked for, and the byte there is read -/
theorem ioNext_eq {toks : List Nat} {s : IoCache} {c : Nat} (h : IoGood toks s c) (cu : Nat) :
    ∃ s', ioNext s cu = (toks[cu]?, s', cu + (if (toks[cu]?).isSome then 1 else 0)) ∧ ∀ c0, IoGood toks s' c0 := by
  obtain ⟨h1, h2⟩ := h
  have hs : ∃ s1 : IoCache, (if cu ≠ s.last then { s with rpos := s.rpos + cu - s.last, last := cu, seeks := s.seeks + 1 }
      else s) = s1 ∧ s1.bytes = toks ∧ s1.rpos = cu ∧ s1.last = cu := by
    split
    · exact ⟨_, rfl, h1, by show s.rpos + cu - s.last = cu; rw [h2, Nat.add_sub_cancel_left], rfl⟩
    · next hc =>
      have hc : s.last = cu := (Decidable.not_not.mp hc).symm
      exact ⟨_, rfl, h1, h2.trans hc, hc⟩
  obtain ⟨s1, e, b1, b2, b3⟩ := hs
  unfold ioNext
  simp only [e, b1, b2]
  cases toks[cu]? with
  | none => exact ⟨_, rfl, fun _ => ⟨b1, b2.trans b3.symm⟩⟩
  | some b => exact ⟨_, rfl, fun _ => ⟨rfl, by show cu + 1 = s1.last + 1; rw [b3]⟩⟩

theorem io_sim (toks : List Nat) : Sim toks ioImpl (IoGood toks) id := by
  refine ⟨fun s cu g => ?_, fun s cu g => ?_, fun s cu g => ?_, fun s cu cu0 g _ => ?_⟩ <;>
    obtain ⟨s', e, g'⟩ := ioNext_eq g cu
  · show (ioNext s cu).1 = _; rw [e]; rfl
  · show IoGood toks (ioNext s cu).2.1 _; rw [e]; exact g' _
  · show (ioNext s cu).2.2 = cu + (if (ioNext s cu).1.isSome then 1 else 0); rw [e]
  · show IoGood toks (ioNext s cu).2.1 _; rw [e]; exact g' _

/-- **IoInput seek-on-rewind**: `next` at cursor `c` returns `bytes[c]` whatever `last_cursor` was, backwards or forwards -/
theorem c10_io_reads_at_cursor (bytes : List Nat) (s : IoCache) (cu : Nat) (h : s.bytes = bytes ∧ s.rpos = s.last) :
    (ioNext s cu).1 = bytes[cu]? := (io_sim bytes).tok s cu h

theorem c10_io_any_schedule (bytes : List Nat) (sched : List Nat) :
    replay ioImpl sched (ioBegin bytes) [0] = replay (listImpl bytes) sched () [0] :=
  replay_locs (io_sim bytes) (fun _ => rfl) sched (ioBegin bytes) [0]
    (by intro cu _; exact ⟨rfl, rfl⟩)

/-! ### IterInput -/

def IterGood (src : List (Nat × (Nat × Nat))) (_ : Unit) (cu : IterCursor) : Prop := cu.rest = src.drop cu.idx

theorem iter_sim (src : List (Nat × (Nat × Nat))) :
    Sim (src.map Prod.fst) iterImpl (IterGood src) (fun cu => cu.idx) := by
  have key : ∀ (cu : IterCursor), IterGood src () cu →
      (iterNext () cu).1 = (src.map Prod.fst)[cu.idx]? ∧ IterGood src () (iterNext () cu).2.2 ∧
      (iterNext () cu).2.2.idx = cu.idx + (if (iterNext () cu).1.isSome then 1 else 0) := by
    intro cu h
    have h' : cu.rest = src.drop cu.idx := h
    have hd : cu.rest.head? = src[cu.idx]? := by rw [h']; exact List.head?_drop
    have ht : cu.rest.tail = src.drop (cu.idx + 1) := by rw [h']; exact List.tail_drop
    rw [List.getElem?_map, ← hd]
    unfold iterNext IterGood
    revert ht
    cases cu.rest with
    | nil => exact fun _ => ⟨rfl, h, rfl⟩
    | cons p r => exact fun ht => ⟨rfl, ht, rfl⟩
  exact ⟨fun _ cu g => (key cu g).1, fun _ cu g => (key cu g).2.1, fun _ cu g => (key cu g).2.2,
         fun _ _ _ _ g0 => g0⟩

theorem c10_iter_any_schedule (src : List (Nat × (Nat × Nat))) (sched : List Nat) :
    replay iterImpl sched () [{ rest := src, idx := 0, lastEnd := none }] =
      replay (listImpl (src.map Prod.fst)) sched () [0] :=
  replay_locs (iter_sim src) (fun _ => rfl) sched () [{ rest := src, idx := 0, lastEnd := none }]
    (by intro cu h; cases List.mem_singleton.mp h; exact rfl)

/-! ### MappedInput over any implementation -/

/-- a mapped input calls the inner `next` and only adds the end of the token to the cursor -/
theorem mappedImpl_next {Ca Cu : Type} (I : Impl Ca Cu) (spanOf : Nat → Nat × Nat) (ca : Ca) (cu : Cu × Option Nat) :
    ∃ e, (mappedImpl I spanOf).next ca cu = ((I.next ca cu.1).1, (I.next ca cu.1).2.1, (I.next ca cu.1).2.2, e) := by
  simp only [mappedImpl]; cases (I.next ca cu.1).1 <;> exact ⟨_, rfl⟩

theorem mapped_sim {Ca Cu : Type} {toks : List Nat} {I : Impl Ca Cu} {Good : Ca → Cu → Prop} {idx : Cu → Nat}
    (h : Sim toks I Good idx) (spanOf : Nat → Nat × Nat) :
    Sim toks (mappedImpl I spanOf) (fun ca cu => Good ca cu.1) (fun cu => idx cu.1) := by
  refine ⟨fun ca cu g => ?_, fun ca cu g => ?_, fun ca cu g => ?_, fun ca cu cu0 g g0 => ?_⟩ <;>
    obtain ⟨e, he⟩ := mappedImpl_next I spanOf ca cu <;> rw [he]
  · exact h.tok ca cu.1 g
  · exact h.good ca cu.1 g
  · exact h.adv ca cu.1 g
  · exact h.stable ca cu.1 cu0.1 g g0

/-- the peek inside `MappedInput::span` leaves every saved cursor usable (it is one more `next` at an old cursor) -/
theorem c10_mapped_span_peek_harmless {Ca Cu : Type} {toks : List Nat} {I : Impl Ca Cu} {Good : Ca → Cu → Prop}
    {idx : Cu → Nat} (h : Sim toks I Good idx) (spanOf : Nat → Nat × Nat) (eoi : Nat × Nat) (ca : Ca)
    (a b c0 : Cu × Option Nat) (ha : Good ca a.1) (h0 : Good ca c0.1) :
    Good (mappedSpan I spanOf eoi ca a b).2 c0.1 := by
  simp only [mappedSpan]; exact h.stable ca a.1 c0.1 ha h0

/-- mapped over an IoInput (the reader is re-positioned by the peek, then must seek forward again): any schedule agrees -/
theorem c10_mapped_io_any_schedule (bytes : List Nat) (spanOf : Nat → Nat × Nat) (sched : List Nat) :
    (replay (mappedImpl ioImpl spanOf) sched (ioBegin bytes) [(0, none)]).map Prod.snd =
      (replay (listImpl bytes) sched () [0]).map Prod.snd :=
  replay_agrees (mapped_sim (io_sim bytes) spanOf) sched (ioBegin bytes) [(0, none)]
    (by intro cu _; exact ⟨rfl, rfl⟩)

/-! ### non-vacuity: schedules with backtracking, evaluated by the kernel -/

-- batch of 2, cursors reused out of order, one past the end
example : replay (streamImpl 2) [0, 0, 1, 2, 1, 3, 5] (streamBegin [97, 98, 99]) [0] =
          [(0, some 97), (0, some 97), (1, some 98), (1, some 98), (1, some 98), (2, some 99), (2, some 99)] := by decide
example : replay ioImpl [0, 1, 0, 2, 3, 1] (ioBegin [7, 8, 9]) [0] =
          replay (listImpl [7, 8, 9]) [0, 1, 0, 2, 3, 1] () [0] := by decide

/-! ### the parser core: any kind = the index-based kind, re-based -/

/-- **C10 (parser core).** `env` presents the tokens index-based (`&[T]`); `env'` presents the same tokens under any other
    kind (`&str` byte offsets, `Input::map` with arbitrary per-token spans `ts` and end-of-input span `e`). For every grammar
    (`constOk`: its literal constants `to(v)` / `with_ctx(v)` / fallback values contain no span — a span-valued constant is
    returned unchanged under every kind, which is the one thing re-basing would move), every mode, fuel and error type:
    `parse`/`check` under `env'` is the index-based result with every span (in values and in errors) mapped through
    `env'.mkSpan` and every slice offset through `env'.off` — the documented re-basing and nothing else. -/
theorem c10_kind_invariant (env : Env) (hs : env.kind = .slice) (k : InKind) (ts : List (Nat × Nat)) (e : Nat × Nat)
    (hd : constOkL env.defs = true) (n : Nat) (m : Mode) (g : G) (hg : g.constOk = true) :
    let env' : Env := { env with kind := k, tspans := ts, eoi := e }
    parseTop n env' m g = (parseTop n env m g).mapSp env'.rebase :=
  parseTop_kindSim_partial' env hs k ts e hd n m g hg

/-- … from every start state, for the machine itself -/
theorem c10_kind_invariant_run (env : Env) (hs : env.kind = .slice) (k : InKind) (ts : List (Nat × Nat)) (e : Nat × Nat)
    (hd : constOkL env.defs = true) (n : Nat) (m : Mode) (g : G) (hg : g.constOk = true) (st : St) :
    let env' : Env := { env with kind := k, tspans := ts, eoi := e }
    run n env' m g (st.mapSp env'.rebase) = (run n env m g st).mapSp env'.rebase :=
  run_kindSim_partial' env hs k ts e hd n m g hg st

/-- consequently acceptance and the number of reported errors do not depend on the representation -/
theorem c10_same_acceptance (env : Env) (hs : env.kind = .slice) (k : InKind) (ts : List (Nat × Nat)) (e : Nat × Nat)
    (hd : constOkL env.defs = true) (n : Nat) (m : Mode) (g : G) (hg : g.constOk = true) :
    let env' : Env := { env with kind := k, tspans := ts, eoi := e }
    (match parseTop n env' m g, parseTop n env m g with
      | .result r' _, .result r _ => r'.output.isSome = r.output.isSome ∧ r'.errs.length = r.errs.length
      | .panic w', .panic w => w' = w
      | .oof, .oof => True
      | _, _ => False) := by
  intro env'
  have h := c10_kind_invariant env hs k ts e hd n m g hg
  simp only at h
  rw [h]
  cases parseTop n env m g with
  | result r f => simp [TopOut.mapSp]
  | panic w => simp [TopOut.mapSp]
  | oof => simp [TopOut.mapSp]

/-- the `constOk` proviso is needed: a span-valued constant is not re-based by the real parsers either -/
example : (G.to (.span 0 1) .empty).constOk = false := by decide

/-- **C10 for Pratt parsers** (`Model/Pratt.lean`): `atom.pratt(ops)` under any
    representation of the same tokens is the index-based run with every span — those handed to the fold callbacks of the
    operators, those inside errors — re-based, and nothing else -/
theorem c10_pratt_kind_invariant (env : Env) (hs : env.kind = .slice) (k : InKind) (ts : List (Nat × Nat))
    (e : Nat × Nat) (hd : constOkL env.defs = true) (fuel : Nat) (m : Mode) (atom : G) (hatom : atom.constOk = true)
    (ops : List PrattOp)
    (hops : ∀ o ∈ ops, (match o with | .infix _ _ g => g | .prefix _ g => g | .postfix _ g => g).constOk = true)
    (st : St) :
    let env' : Env := { env with kind := k, tspans := ts, eoi := e }
    runPratt fuel env' m atom ops (st.mapSp env'.rebase) = (runPratt fuel env m atom ops st).mapSp env'.rebase :=
  runPratt_kindSim env hs k ts e hd fuel m atom hatom ops hops st

/-- … and for recursive expression grammars `recursive(|e| atom.pratt(ops))`, at every grammar position -/
theorem c10_recursive_pratt_kind_invariant (x : XEnv) (env : Env) (hs : env.kind = .slice) (k : InKind)
    (ts : List (Nat × Nat)) (e : Nat × Nat) (hd : constOkL env.defs = true) (hatom : x.atom.constOk = true)
    (hops : ∀ o ∈ x.ops, (match o with | .infix _ _ g => g | .prefix _ g => g | .postfix _ g => g).constOk = true)
    (n : Nat) (m : Mode) (g : G) (hg : g.constOk = true) (st : St) :
    let env' : Env := { env with kind := k, tspans := ts, eoi := e }
    runX x n env' m g (st.mapSp env'.rebase) = (runX x n env m g st).mapSp env'.rebase := by
  intro env'
  have := (runX_kind_all x (kindRel_of_slice env hs k ts e hd) hatom hops n).1 m g st
  rwa [G.mapConst_of_constOk _ g hg] at this

/-- … and for any number of Pratt tables referring to each other (statement-level and expression-level tables, a table inside
    the operator parsers of another: `EEnv` without nested-input extensions), at every grammar position -/
theorem c10_pratt_tables_kind_invariant (ee : EEnv) (hp : ee.PrattOnly) (env : Env) (hs : env.kind = .slice) (k : InKind)
    (ts : List (Nat × Nat)) (e : Nat × Nat) (hd : constOkL env.defs = true)
    (n : Nat) (m : Mode) (g : G) (hg : g.constOk = true) (st : St) :
    let env' : Env := { env with kind := k, tspans := ts, eoi := e }
    runE ee n env' m g (st.mapSp env'.rebase) = (runE ee n env m g st).mapSp env'.rebase := by
  intro env'
  have := (runE_kind_all ee (kindRel_of_slice env hs k ts e hd) hp n).1 m g st
  rwa [G.mapConst_of_constOk _ g hg] at this

#print axioms c10_pratt_tables_kind_invariant
#print axioms c10_recursive_pratt_kind_invariant
#print axioms c10_pratt_kind_invariant
#print axioms replay_agrees
#print axioms replay_locs
#print axioms stream_sim
#print axioms c10_stream_pulls_once
#print axioms c10_stream_any_schedule
#print axioms io_sim
#print axioms c10_io_reads_at_cursor
#print axioms c10_io_any_schedule
#print axioms iter_sim
#print axioms c10_iter_any_schedule
#print axioms mapped_sim
#print axioms c10_mapped_span_peek_harmless
#print axioms c10_mapped_io_any_schedule
#print axioms c10_kind_invariant
#print axioms c10_kind_invariant_run
#print axioms c10_same_acceptance
end Chumsky
