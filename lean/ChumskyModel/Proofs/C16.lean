/-
  C16 — nested inputs are parsed completely, in isolation, and report back faithfully.

  Model: `Model/Nested.lean` (two-level language: arbitrary base grammars at the leaves; sequence, ordered choice, option and
  span capture may contain `nested_in`, to any depth), then the general form: `a.nested_in(b)` as `.call hole` at any position
  of any grammar (`HEnv` / `runH`), and together with Pratt tables (`EEnv` / `runE`). Theorems are for every grammar, every
  token tree (the group table is arbitrary), every mode, state and fuel.
-/
import ChumskyModel.Proofs.Lemmas.NestedOk
import ChumskyModel.Proofs.Lemmas.NestedRefine
import ChumskyModel.Proofs.Lemmas.NestedHole
import ChumskyModel.Proofs.Lemmas.NestedMode
import ChumskyModel.Proofs.Lemmas.NestedAlt
import ChumskyModel.Proofs.Lemmas.ExtAll
namespace Chumsky

/-- **C16 (refinement).** The machine — `b` in `Emit`, pending error taken and restored, sub-context with fresh error list and
    memo table, inner errors re-homed at the outer cursor, no rewind of its own — refines the reading below, wherever the
    nested parse sits (under choices, options, sequences, other nested parses). -/
theorem c16_refines (n : Nat) (ne : NEnv) (m : Mode) (g : NGram) (st : St) (hm : ne.base.memoOn = false) :
    Refines m st.errs st.ctx (runN n ne m g st) (pegN n ne g st.ss st.ctx) :=
  runN_refines n ne m g st hm

/-- **runs `a` on exactly the inner input produced by `b`, completely; advances the outer input by exactly what `b` consumed;
    inner emissions surface after `b`'s, in order, at the outer position.** -/
theorem c16_success (n : Nat) (ne : NEnv) (a : NGram) (b : G) (s : SS) (ctx : Val) {v s' em}
    (h : pegN (n + 1) ne (.nestedIn a b) s ctx = .ok v s' em) :
    ∃ vb s1 e1 kids si e2 e3,
      peg n ne.base b s ctx = .ok vb s1 e1 ∧ ne.kidsOf vb = some kids ∧
      pegN n (ne.inner kids) a ⟨0, s1.insp⟩ ctx = .ok v si e2 ∧
      (ne.inner kids).base.toks = kids ∧
      peg n (ne.inner kids).base .end_ si ctx = .ok .unit ⟨si.pos, s'.insp⟩ e3 ∧
      s'.pos = s1.pos ∧ em = e1 ++ rehomeEm s1.pos (e2 ++ e3) := by
  simp only [pegN, SOut.andThen] at h
  cases hb : peg n ne.base b s ctx <;> simp [hb] at h
  rename_i vb s1 e1
  cases hk : ne.kidsOf vb <;> simp [hk] at h
  rename_i kids
  simp only [innerThenEndS, SOut.andThen] at h
  cases ha : pegN n (ne.inner kids) a ⟨0, s1.insp⟩ ctx <;> simp [ha] at h
  rename_i va si e2
  cases he : peg n (ne.inner kids).base .end_ si ctx <;> simp [he] at h
  rename_i ve se e3
  obtain ⟨h1, h2, h3⟩ := h
  subst h1
  -- `end()` returns unit and does not move
  have hend : ve = .unit ∧ se = si := by
    cases n with
    | zero => simp [peg] at he
    | succ k =>
      simp only [peg, step_eqs] at he
      cases ht : (ne.inner kids).base.toks[si.pos]? <;> simp [ht] at he
      exact ⟨he.1.symm, he.2.1.symm⟩
  obtain ⟨hv, hs⟩ := hend
  subst hv hs
  refine ⟨vb, s1, e1, kids, se, e2, e3, rfl, hk, ha, rfl, ?_, by rw [← h2], h3.symm⟩
  rw [← h2]; exact he

/-- the inner parse is complete: after `a` nothing of the inner input is left -/
theorem c16_complete (n : Nat) (env : Env) (si : SS) (ctx : Val) {v s2 e3}
    (h : peg (n + 1) env .end_ si ctx = .ok v s2 e3) : env.toks.length ≤ si.pos := by
  simp only [peg, step_eqs] at h
  cases ht : env.toks[si.pos]? <;> simp [ht] at h
  simpa using ht

/-- **succeeds only if `a` matches the inner input completely**: a leftover inner token makes the nested parse fail -/
theorem c16_leftover_fails (n : Nat) (ne : NEnv) (a : NGram) (b : G) (s : SS) (ctx : Val) {vb s1 e1 kids va si e2 t}
    (hb : peg (n + 1) ne.base b s ctx = .ok vb s1 e1) (hk : ne.kidsOf vb = some kids)
    (ha : pegN (n + 1) (ne.inner kids) a ⟨0, s1.insp⟩ ctx = .ok va si e2) (hleft : kids[si.pos]? = some t) :
    pegN (n + 2) ne (.nestedIn a b) s ctx = .fail := by
  have hend : peg (n + 1) (ne.inner kids).base .end_ si ctx = .fail := by
    simp only [peg, step_eqs]
    have : (ne.inner kids).base.toks[si.pos]? = some t := hleft
    simp [this]
  simp [pegN, SOut.andThen, hb, hk, innerThenEndS, ha, hend]

/-- … and a failing `a` makes it fail -/
theorem c16_inner_failure_fails (n : Nat) (ne : NEnv) (a : NGram) (b : G) (s : SS) (ctx : Val) {vb s1 e1 kids}
    (hb : peg n ne.base b s ctx = .ok vb s1 e1) (hk : ne.kidsOf vb = some kids)
    (ha : pegN n (ne.inner kids) a ⟨0, s1.insp⟩ ctx = .fail) :
    pegN (n + 1) ne (.nestedIn a b) s ctx = .fail := by
  simp [pegN, SOut.andThen, hb, hk, innerThenEndS, ha]

/-- **the outer grammar backtracks over a failed nested parse like over any other failure**: ordered choice tries the next
    alternative from the same position, option yields `None` there -/
theorem c16_backtrack_or (n : Nat) (ne : NEnv) (a : NGram) (b : G) (c : NGram) (s : SS) (ctx : Val)
    (h : pegN n ne (.nestedIn a b) s ctx = .fail) :
    pegN (n + 1) ne (.or_ (.nestedIn a b) c) s ctx = pegN n ne c s ctx := by
  simp only [pegN, h]

theorem c16_backtrack_or_not (n : Nat) (ne : NEnv) (a : NGram) (b : G) (s : SS) (ctx : Val)
    (h : pegN n ne (.nestedIn a b) s ctx = .fail) :
    pegN (n + 1) ne (.orNot (.nestedIn a b)) s ctx = .ok .none s [] := by
  simp only [pegN, h]

/-- **the inner failure surfaces**: when the nested parse fails the machine leaves the outer position just after `b`, appends the
    inner non-fatal errors (re-homed) to the outer list, and the pending error is the priority-merge of what was pending with
    the inner failure placed at the outer cursor -/
theorem c16_failure_reported (env : Env) (st1 si : St) (a : Loc) (hek : env.ek ≠ .empty) (ha : si.alt = some a) :
    (nestedMerge env st1 si).pos = st1.pos ∧
    (nestedMerge env st1 si).errs = st1.errs ++ rehome st1.pos si.errs ∧
    (nestedMerge env st1 si).alt = St.mergeAlt env.ek st1.alt st1.pos a.err := by
  refine ⟨by simp, by simp, ?_⟩
  unfold nestedMerge
  simp only [ha, St.addAltErr]

/-- isolation: the nested parse starts with no errors, no pending error and an empty memo table of its own, whatever the
    outer state holds (definitional; stated so that a change of the model shows up here) -/
theorem c16_isolated (n : Nat) (ne : NEnv) (m : Mode) (a : NGram) (b : G) (st st1 : St) (vb : Val) (kids : List Nat)
    (hb : run n ne.base .emit b st = .ok vb st1) (hk : ne.kidsOf vb = some kids) :
    runN (n + 1) ne m (.nestedIn a b) st =
      match innerThenEndM
          (runN n (ne.inner kids) m a { pos := 0, errs := [], alt := none, insp := st1.insp, ctx := st1.ctx, memo := [], log := [] })
          (fun si1 => run n (ne.inner kids).base .check .end_ si1) with
      | .ok va si => .ok va (nestedMerge ne.base st1 si)
      | .fail si => .fail (nestedMerge ne.base st1 si)
      | .panic w => .panic w
      | .oof => .oof := by
  simp only [runN, hb, hk]
  rfl

/-! ### non-vacuity: a token tree of depth 2, evaluated by the kernel -/

/-- tokens: `a`=97, `b`=98, group 1000 = [a, group 1001], group 1001 = [b]. Grammar: `x (G(a G(b)))?` … -/
def exNE : NEnv :=
  { base := { toks := [97, 1000], kind := .mapped, tspans := layoutSpans 1 2 0, eoi := (7, 7), memoOn := false },
    groups := [(1000, [97, 1001]), (1001, [98])], gap := 1 }

def grp : G := .select [1000, 1001]

example :
    (match parseTopN 40 exNE .emit
        (.then_ (.lift (.just [97]))
          (.nestedIn (.then_ (.lift .any) (.nestedIn (.mapWithSpan (.lift (.just [98]))) grp)) grp)) with
      | .result r _ => (r.output, r.errs.length)
      | _ => (none, 99)) =
    (some (.pair (.toks [97]) (.pair (.tok 97) (.pair (.toks [98]) (.span 1 3)))), 0) := by
  decide +kernel

/-- the inner sequence is one token too long for `a`: the nested parse fails and the choice takes its second alternative -/
example :
    (match parseTopN 40 exNE .emit
        (.then_ (.lift (.just [97]))
          (.or_ (.nestedIn (.lift .any) grp) (.lift (.to (.nat 5) .any)))) with
      | .result r _ => (r.output, r.errs.length)
      | _ => (none, 99)) = (some (.pair (.toks [97]) (.nat 5)), 0) := by
  decide +kernel

/-! ### the general form: `a.nested_in(b)` at any position of any grammar (`HEnv` / `runH` / `pegH`)

  Inside `a`, `b` and the surrounding grammar `.call hole` is `a.nested_in(b)`: nested parses under repetitions, separated
  lists, recovery, labels, lookahead, folds, in recursive definitions, and token trees parsed recursively (`a` mentions the
  hole). The machine is the ordinary `step` with `NestedIn::go` at the hole. -/

/-- **C16, general refinement.** Every grammar position, mode, state, fuel, token tree. -/
theorem c16_general_refines (h : HEnv) (n : Nat) (env : Env) (m : Mode) (g : G) (st : St) (hm : env.memoOn = false) :
    Refines m st.errs st.ctx (runH h n env m g st) (pegH h n env g st.ss st.ctx) :=
  runH_refines h n env m g st hm

theorem c16_general_parse (h : HEnv) (n : Nat) (env : Env) (m : Mode) (g : G) (hm : env.memoOn = false) :
    TopRefines m (parseTopH h n env m g) (pegTopH h n env g) :=
  parseTopH_refines h n env m g hm

/-- what the reading says at the hole: `b` yields a group token and consumes it; `a` followed by end-of-input must match the
    children — completely, from a fresh error state, sharing only inspector and context; the result is `a`'s, the outer
    position is just after `b`, inner emissions are reported at that position after `b`'s -/
theorem c16_general_hole (h : HEnv) (n : Nat) (env : Env) (s : SS) (ctx : Val) :
    pegH h (n + 1) env (.call h.hole) s ctx = nestedStepS (pegH h n) h env s ctx :=
  pegH_hole h n env s ctx

/-- check mode through nested inputs (C04): same outcome, identical final state -/
theorem c16_general_check_eq_emit (h : HEnv) (n : Nat) (env : Env) (g : G) (st : St) :
    runH h n env .check g st = (runH h n env .emit g st).erase :=
  (runH_modeSim h n).1 env g st

/-- an inner failure is reported faithfully (C06 / C20 through nested inputs): a failing run leaves a pending error, and
    when `parse` fails the last reported error is (≈) the summary of all failure events of the outer parse, each nested parse
    that left an error contributing one event just after its group token -/
theorem c16_general_failure_reported (h : HEnv) (n : Nat) (env : Env) (hek : env.ek ≠ .empty)
    (hdefs : ∀ d ∈ env.defs, d.c06 = true) (ha : h.a.c06 = true) (hb : h.b.c06 = true) (m : Mode) (g : G)
    (hg : g.c06 = true) (r : ParseResult) (f : St) (hp : parseTopH h n env m g = .result r f) (ho : r.output = none) :
    ∃ l l', f.alt = some l ∧ summ env.ek f.log = some l' ∧ l.equiv l' ∧ r.errs = f.errs.map (·.err) ++ [l.err] ∧
      (∀ ev ∈ f.log, ev.pos ≤ l.pos) :=
  parseTopH_primary_error h n env hek hdefs ha hb m g hg r f hp ho

/-- non-vacuity: a tree parsed recursively — group 1000 = [a, 1001, b], group 1001 = [b, b]; `a = (hole | a | b)*`; the
    outer grammar is a separated list of trees `hole (',' hole)*` -/
example :
    let h : HEnv := { hole := 0, a := .collect .vec (.repeated (.or_ (.call 0) (.oneOf [97, 98])) 0 none),
                      b := .select [1000, 1001], groups := [(1000, [97, 1001, 98]), (1001, [98, 98])], gap := 1 }
    (match parseTopH h 60 { toks := [1000, 44, 1001], kind := .mapped, tspans := layoutSpans 1 3 0, eoi := (10, 10),
                            memoOn := false } .emit
        (.collect .vec (.separatedBy (.call 0) (.just [44]) 1 none false false)) with
      | .result r f => (r.output.isSome, r.errs.length, f.pos)
      | _ => (false, 99, 0)) = (true, 0, 3) := by
  decide +kernel

/-! ### nested inputs and Pratt expressions together (`Model/Ext.lean`)

  The usual front end: brackets grouped into token trees by the lexer, `nested_in` for the groups, `pratt` for the expressions
  inside them, each referring to the other. `EEnv` lists any number of such extensions; `.call (base + i)` is extension `i`
  everywhere. -/

/-- machine ⊑ reading, every grammar position, mode, state, fuel, token tree, operator table -/
theorem c16_with_pratt_refines (e : EEnv) (n : Nat) (env : Env) (m : Mode) (g : G) (st : St) (hm : env.memoOn = false) :
    Refines m st.errs st.ctx (runE e n env m g st) (pegE e n env g st.ss st.ctx) :=
  runE_refines e n env m g st hm

theorem c16_with_pratt_parse (e : EEnv) (n : Nat) (env : Env) (m : Mode) (g : G) (hm : env.memoOn = false) :
    TopRefines m (parseTopE e n env m g) (pegTopE e n env g) :=
  parseTopE_refines e n env m g hm

theorem c16_with_pratt_check_eq_emit (e : EEnv) (n : Nat) (env : Env) (g : G) (st : St) :
    runE e n env .check g st = (runE e n env .emit g st).erase :=
  (runE_modeSim e n).1 env g st

theorem c16_with_pratt_failure_reported (e : EEnv) (n : Nat) (env : Env) (hek : env.ek ≠ .empty)
    (hdefs : ∀ d ∈ env.defs, d.c06 = true) (hx : ∀ x ∈ e.exts, x.c06 = true) (m : Mode) (g : G) (hg : g.c06 = true)
    (r : ParseResult) (f : St) (hp : parseTopE e n env m g = .result r f) (ho : r.output = none) :
    ∃ l l', f.alt = some l ∧ summ env.ek f.log = some l' ∧ l.equiv l' ∧ r.errs = f.errs.map (·.err) ++ [l.err] ∧
      (∀ ev ∈ f.log, ev.pos ≤ l.pos) :=
  parseTopE_primary_error e n env hek hdefs hx m g hg r f hp ho

/-- non-vacuity: `x * G` where the group `G` = `[x, +, y]` is itself an expression: extension 0 is the Pratt parser (its atom
    is a name or a group parsed by extension 1), extension 1 is `expr.nested_in(select G)`. Accepted, whole input consumed. -/
example :
    let e : EEnv := { base := 100, gap := 1, groups := [(1000, [120, 43, 121])],
                      exts := [.pratt (.or_ (.oneOf [120, 121]) (.call 101)) [.infix true 1 (.just [43]), .infix true 2 (.just [42])],
                               .nested (.call 100) (.select [1000])] }
    (match parseTopE e 60 { toks := [120, 42, 1000], kind := .mapped, tspans := layoutSpans 1 3 0, eoi := (10, 10),
                            memoOn := false } .emit (.call 100) with
      | .result r f => (r.output.isSome, r.errs.length, f.pos)
      | _ => (false, 99, 0)) = (true, 0, 3) := by
  decide +kernel

/-- **C16, anatomy of a successful nested parse in a grammar with extensions** (reading): extension `k` being `a.nested_in(b)`,
    a success means — `b` succeeded at the outer position and yielded a group token; `a` (read by `pegE` again: it may contain
    Pratt expressions and further nested parses) succeeded on the children from inner position 0 and ended where the inner
    input ends (it matched the inner input COMPLETELY); the outer input advanced by exactly what `b` consumed; the emissions
    are `b`'s followed by the inner ones, re-homed just after the group -/
theorem c16_extensions_anatomy (e : EEnv) (n : Nat) (env : Env) (g a b : G) (hf : e.find g = some (.nested a b)) (s : SS)
    (ctx : Val) {v s' em} (hok : pegE e (n + 2) env g s ctx = .ok v s' em) :
    ∃ (vb : Val) (s1 : SS) (e1 : List Emis) (kids : List Nat) (si1 : SS) (e2 : List Emis) (si : SS) (e3 : List Emis),
      pegE e (n + 1) env b s ctx = .ok vb s1 e1 ∧ (e.henv a b).kidsOf vb = some kids ∧
      pegE e (n + 1) ((e.henv a b).innerEnv env kids) a ⟨0, s1.insp⟩ ctx = .ok v si1 e2 ∧
      ((e.henv a b).innerEnv env kids).toks[si1.pos]? = none ∧
      s' = ⟨s1.pos, si.insp⟩ ∧ si.insp = si1.insp ∧ em = e1 ++ rehomeEm s1.pos (e2 ++ e3) := by
  simp only [pegE, hf] at hok
  obtain ⟨vb, s1, e1, kids, si, e2', hb, hk, hi, hs, he⟩ := nestedStepS_ok _ _ _ _ _ hok
  obtain ⟨si1, e2, ve, e3, ha, hend, hee⟩ := innerThenEndS_ok hi
  refine ⟨vb, s1, e1, kids, si1, e2, si, e3, hb, hk, ha, ?_, hs, ?_, by rw [he, hee]⟩
  · simp only [EEnv.find, step_eqs] at hend
    cases ht : ((e.henv a b).innerEnv env kids).toks[si1.pos]? with
    | none => rfl
    | some t => rw [ht] at hend; simp at hend
  · simp only [EEnv.find, step_eqs] at hend
    cases ht : ((e.henv a b).innerEnv env kids).toks[si1.pos]? with
    | none => rw [ht] at hend; simp at hend; rw [← hend.2.1]
    | some t => rw [ht] at hend; simp at hend

#print axioms c16_extensions_anatomy
#print axioms c16_with_pratt_refines
#print axioms c16_with_pratt_parse
#print axioms c16_with_pratt_check_eq_emit
#print axioms c16_with_pratt_failure_reported
#print axioms c16_general_refines
#print axioms c16_general_parse
#print axioms c16_general_hole
#print axioms c16_general_check_eq_emit
#print axioms c16_general_failure_reported
#print axioms c16_refines
#print axioms c16_success
#print axioms c16_complete
#print axioms c16_leftover_fails
#print axioms c16_inner_failure_fails
#print axioms c16_backtrack_or
#print axioms c16_backtrack_or_not
#print axioms c16_failure_reported
#print axioms c16_isolated
end Chumsky
