/-
  The equations of `step`, `stepNext`, `pegStep` and `pegNext`, one per constructor of `G` / `It` (each by `rfl`), collected in the
  simp set `step_eqs`, and the finishing step of `parse` / `check` as a function (`Out.top`).
  Unfolding `step` or `pegStep` with `simp only [step]` rewrites with the single equation of the definition and then builds a
  congruence proof through its `match` over all constructors; rewriting with one of these equations does neither.
  `L` is the iteration budget `step` hands to its loop helpers (`run (n + 1)` passes `n`); a step lemma holds for every `L`.
-/
import ChumskyModel.Model.Spec
import ChumskyModel.Proofs.Lemmas.SimpAttr
namespace Chumsky

/-! ### the machine -/

section machine
variable (R : Runner) (N : NextRunner) (K : MkRunner) (L : Nat) (env : Env) (m : Mode) (st : St)

@[step_eqs] theorem step_end :
    step R N K L env m .end_ st =
      (let c := st.save
       let (t?, st1) := st.next env
       match t? with
       | none => .ok .unit st1
       | some t =>
         let span := env.mkSpan c.pos st1.pos
         .fail ((st1.rewind c).addAlt env [.eoi] (some t) span)) := rfl

@[step_eqs] theorem step_empty :
    step R N K L env m .empty st =
      .ok .unit st := rfl

@[step_eqs] theorem step_any :
    step R N K L env m .any st =
      tokenPrim env m st (fun t => some (.tok t)) [.any] := rfl

@[step_eqs] theorem step_just (ts) :
    step R N K L env m (.just ts) st =
      (match justRun env ts st with
       | .inr st' => .ok (m.bind (.toks ts)) st'
       | .inl st' => .fail st') := rfl

@[step_eqs] theorem step_oneOf (ts) :
    step R N K L env m (.oneOf ts) st =
      tokenPrim env m st (fun t => if ts.contains t then some (.tok t) else none) (ts.map .tok) := rfl

@[step_eqs] theorem step_noneOf (ts) :
    step R N K L env m (.noneOf ts) st =
      tokenPrim env m st (fun t => if ts.contains t then none else some (.tok t)) [.somethingElse] := rfl

@[step_eqs] theorem step_select (ts) :
    step R N K L env m (.select ts) st =
      tokenPrim env m st (fun t => if ts.contains t then some (.tag 7 (.tok t)) else none) [.somethingElse] := rfl

@[step_eqs] theorem step_custom (f) :
    step R N K L env m (.custom f) st =
      runCustom env m f st := rfl

@[step_eqs] theorem step_todo :
    step R N K L env m .todo st =
      .panic pTodo := rfl

@[step_eqs] theorem step_then (a b) :
    step R N K L env m (.then_ a b) st =
      ((R env m a st).andThen fun va st1 =>
       (R env m b st1).andThen fun vb st2 => .ok (m.bind (.pair va vb)) st2) := rfl

@[step_eqs] theorem step_ignoreThen (a b) :
    step R N K L env m (.ignoreThen a b) st =
      ((R env .check a st).andThen fun _ st1 =>
       (R env m b st1).andThen fun vb st2 => .ok vb st2) := rfl

@[step_eqs] theorem step_thenIgnore (a b) :
    step R N K L env m (.thenIgnore a b) st =
      ((R env m a st).andThen fun va st1 =>
       (R env .check b st1).andThen fun _ st2 => .ok va st2) := rfl

@[step_eqs] theorem step_delimitedBy (a l r) :
    step R N K L env m (.delimitedBy a l r) st =
      ((R env .check l st).andThen fun _ st1 =>
       (R env m a st1).andThen fun va st2 =>
       (R env .check r st2).andThen fun _ st3 => .ok va st3) := rfl

@[step_eqs] theorem step_paddedBy (a p) :
    step R N K L env m (.paddedBy a p) st =
      ((R env .check p st).andThen fun _ st1 =>
       (R env m a st1).andThen fun va st2 =>
       (R env .check p st2).andThen fun _ st3 => .ok va st3) := rfl

@[step_eqs] theorem step_group (gs) :
    step R N K L env m (.group gs) st =
      groupLoop R env m gs st [] := rfl

@[step_eqs] theorem step_groupArr (gs) :
    step R N K L env m (.groupArr gs) st =
      groupLoop R env m gs st [] := rfl

@[step_eqs] theorem step_or (a b) :
    step R N K L env m (.or_ a b) st =
      choiceTuple R env m st.save [a, b] st := rfl

@[step_eqs] theorem step_choice_tuple (gs) :
    step R N K L env m (.choice .tuple gs) st =
      (match gs with
       | [] => .panic pIllTyped
       | [g] => R env m g st
       | gs => choiceTuple R env m st.save gs st) := rfl

@[step_eqs] theorem step_choice_slice (gs) :
    step R N K L env m (.choice .slice gs) st =
      (match gs with
       | [] => .fail (st.addAlt env [] none (env.mkSpan st.pos st.pos))
       | gs => choiceSlice R env m st.save gs st) := rfl

@[step_eqs] theorem step_orNot (a) :
    step R N K L env m (.orNot a) st =
      (let c := st.save
       match R env m a st with
       | .ok v st' => .ok (match m with | .emit => .some v | .check => .unit) st'
       | .fail st' => .ok (m.bind .none) (st'.rewind c)
       | .panic w => .panic w
       | .oof => .oof) := rfl

@[step_eqs] theorem step_not (a) :
    step R N K L env m (.not_ a) st =
      (let c := st.save
       let alt := st.alt
       match R env .check a { st with alt := none } with
       | .panic w => .panic w
       | .oof => .oof
       | .ok _ st1 =>
         let span := env.mkSpan c.pos st1.pos
         let st2 := { st1.rewind c with alt := alt }
         let (found, st3) := st2.next env
         .fail (st3.addAlt env [.somethingElse] found span)
       | .fail st1 => .ok .unit { st1.rewind c with alt := alt }) := rfl

@[step_eqs] theorem step_andIs (a b) :
    step R N K L env m (.andIs a b) st =
      (let c := st.save
       match R env m a st with
       | .panic w => .panic w
       | .oof => .oof
       | .fail st1 => .fail (st1.rewind c)
       | .ok v st1 =>
         let after := st1.save
         match R env .check b (st1.rewindInput c) with
         | .ok _ st2 => .ok v (st2.rewindInput after)
         | .fail st2 => .fail st2
         | .panic w => .panic w
         | .oof => .oof) := rfl

@[step_eqs] theorem step_rewind (a) :
    step R N K L env m (.rewind a) st =
      (let c := st.save
       match R env m a st with
       | .ok v st1 => .ok v (st1.rewindInput c)
       | o => o) := rfl

@[step_eqs] theorem step_map (f a) :
    step R N K L env m (.map f a) st =
      (R env m a st).andThen fun v st1 => .ok (match m with | .emit => f.eval v | .check => .unit) st1 := rfl

@[step_eqs] theorem step_to (v a) :
    step R N K L env m (.to v a) st =
      (R env .check a st).andThen fun _ st1 => .ok (m.bind v) st1 := rfl

@[step_eqs] theorem step_ignored (a) :
    step R N K L env m (.ignored a) st =
      (R env .check a st).andThen fun _ st1 => .ok .unit st1 := rfl

@[step_eqs] theorem step_filter (p a) :
    step R N K L env m (.filter p a) st =
      (let c := st.save
       (R env .emit a st).andThen fun v st1 =>
         if p.eval v then .ok (m.bind v) st1
         else
           let span := env.mkSpan c.pos st1.pos
           let st2 := st1.rewind c
           .fail (st2.addAlt env [.somethingElse] (st2.peek env) span)) := rfl

@[step_eqs] theorem step_tryMap (f a) :
    step R N K L env m (.tryMap f a) st =
      (let before := st.pos
       let old := st.alt
       match R env .emit a { st with alt := none } with
       | .panic w => .panic w
       | .oof => .oof
       | .fail st1 =>
         let new := st1.alt
         .fail (St.readdAlt env { st1 with alt := old } new)
       | .ok v st1 =>
         let span := env.mkSpan before st1.pos
         let new := st1.alt
         if f.rejectIf.eval v then
           .fail (St.addAltErr env { st1 with alt := old, log := st.log } before (env.ek.userErr span f.msg))
         else
           .ok (m.bind (.tag f.tag v)) (St.readdAlt env { st1 with alt := old } new)) := rfl

@[step_eqs] theorem step_tryMapWith (f a) :
    step R N K L env m (.tryMapWith f a) st =
      (let before := st.pos
       (R env .emit a st).andThen fun v st1 =>
         if f.rejectIf.eval v then
           .fail (st1.addAltErr env st1.pos (env.ek.userErr (env.mkSpan before st1.pos) f.msg))
         else .ok (m.bind (.tag f.tag v)) st1) := rfl

@[step_eqs] theorem step_toSpan (a) :
    step R N K L env m (.toSpan a) st =
      (let before := st.pos
       (R env m a st).andThen fun _ st1 =>
         let s := env.mkSpan before st1.pos
         .ok (m.bind (.span s.1 s.2)) st1) := rfl

@[step_eqs] theorem step_toSlice (a) :
    step R N K L env m (.toSlice a) st =
      (let before := st.pos
       (R env .check a st).andThen fun _ st1 => .ok (m.bind (.slice (env.off before) (env.off st1.pos))) st1) := rfl

@[step_eqs] theorem step_mapWithSpan (a) :
    step R N K L env m (.mapWithSpan a) st =
      (let before := st.pos
       (R env m a st).andThen fun v st1 =>
         let s := env.mkSpan before st1.pos
         .ok (m.bind (.pair v (.span s.1 s.2))) st1) := rfl

@[step_eqs] theorem step_mapWithState (a) :
    step R N K L env m (.mapWithState a) st =
      (R env m a st).andThen fun v st1 => .ok (m.bind (.pair v (.insp st1.insp))) st1 := rfl

@[step_eqs] theorem step_mapWithCtx (a) :
    step R N K L env m (.mapWithCtx a) st =
      (R env m a st).andThen fun v st1 => .ok (m.bind (.pair v st1.ctx)) st1 := rfl

@[step_eqs] theorem step_validate (f a) :
    step R N K L env m (.validate f a) st =
      (let before := st.pos
       (R env .emit a st).andThen fun v st1 =>
         let e := env.ek.userErr (env.mkSpan before st1.pos) f.msg
         let st2 := if f.emitIf.eval v then { st1 with errs := st1.errs ++ List.replicate f.count ⟨before, e⟩ } else st1
         .ok (m.bind v) st2) := rfl

@[step_eqs] theorem step_collect (k it) :
    step R N K L env m (.collect k it) st =
      (match K env m it st with
       | .ok ist st1 => collectLoop N env m it k L st1 ist [] 0
       | .fail st1 => .fail st1
       | .panic w => .panic w
       | .oof => .oof) := rfl

@[step_eqs] theorem step_collectExactly (n it) :
    step R N K L env m (.collectExactly n it) st =
      (match K env m it st with
       | .ok ist st1 => collectExactlyLoop N env m it n st1 ist []
       | .fail st1 => .fail st1
       | .panic w => .panic w
       | .oof => .oof) := rfl

@[step_eqs] theorem step_foldl (f a it) :
    step R N K L env m (.foldl f a it) st =
      ((R env m a st).andThen fun va st1 =>
       match K env m it st1 with
       | .ok ist st2 => foldlLoop N env m it (fun acc x _ => f.evalL acc x) L st2 ist va
       | .fail st2 => .fail st2
       | .panic w => .panic w
       | .oof => .oof) := rfl

@[step_eqs] theorem step_foldlWith (a it) :
    step R N K L env m (.foldlWith a it) st =
      (let beforeAll := st.pos
       (R env m a st).andThen fun va st1 =>
       match K env m it st1 with
       | .ok ist st2 =>
         foldlLoop N env m it (fun acc x st' =>
           let s := env.mkSpan beforeAll st'.pos
           .pair (.pair acc x) (.span s.1 s.2)) L st2 ist va
       | .fail st2 => .fail st2
       | .panic w => .panic w
       | .oof => .oof) := rfl

@[step_eqs] theorem step_foldr (f it b) :
    step R N K L env m (.foldr f it b) st =
      (match K env m it st with
       | .fail st1 => .fail st1
       | .panic w => .panic w
       | .oof => .oof
       | .ok ist st1 =>
         match foldrCollect N env m it L st1 ist [] with
         | .inr o => o
         | .inl none => .oof
         | .inl (some (items, st2)) =>
           (R env m b st2).andThen fun vb st3 =>
             .ok (match m with
                  | .emit => items.foldl (fun acc (x : Val × Nat) => f.evalR x.1 acc) vb
                  | .check => .unit) st3) := rfl

@[step_eqs] theorem step_foldrWith (it b) :
    step R N K L env m (.foldrWith it b) st =
      (match K env m it st with
       | .fail st1 => .fail st1
       | .panic w => .panic w
       | .oof => .oof
       | .ok ist st1 =>
         match foldrCollect N env m it L st1 ist [] with
         | .inr o => o
         | .inl none => .oof
         | .inl (some (items, st2)) =>
           (R env m b st2).andThen fun vb st3 =>
             .ok (match m with
                  | .emit => items.foldl (fun acc (x : Val × Nat) =>
                      let s := env.mkSpan x.2 st3.pos
                      .pair (.pair x.1 acc) (.span s.1 s.2)) vb
                  | .check => .unit) st3) := rfl

@[step_eqs] theorem step_iterP (it) :
    step R N K L env m (.iterP it) st =
      (match it with
       | .repeated a 0 none => repeatFast R env a L st
       | .repeated .. | .separatedBy .. =>
         (match K env .check it st with
          | .ok ist st1 => iterLoop N env it true L st1 ist
          | .fail st1 => .fail st1
          | .panic w => .panic w
          | .oof => .oof)
       | .configureRep .. | .tryConfigureRep .. =>
         (match K env .check it st with
          | .ok ist st1 => iterLoop N env it false L st1 ist
          | .fail st1 => .fail st1
          | .panic w => .panic w
          | .oof => .oof)
       | .intoIter a => (R env .check a st).andThen fun _ st1 => .ok .unit st1
       | _ => .panic pIllTyped) := rfl

@[step_eqs] theorem step_recoverVia (a r) :
    step R N K L env m (.recoverVia a r) st =
      (let c := st.save
       match R env m a st with
       | .ok v st1 => .ok v st1
       | .panic w => .panic w
       | .oof => .oof
       | .fail st1 =>
         let st2 := st1.rewind c
         match st2.alt with
         | none => .panic pUnwrapRecovery
         | some alt =>
           match R env m r { st2 with alt := none } with
           | .ok v st3 => .ok v (st3.emit st3.pos alt.err)
           | .fail st3 => .fail ({ st3 with alt := some alt }.rewind c)
           | .panic w => .panic w
           | .oof => .oof) := rfl

@[step_eqs] theorem step_recoverSkipUntil (a skip until_ fb) :
    step R N K L env m (.recoverSkipUntil a skip until_ fb) st =
      (let c := st.save
       match R env m a st with
       | .ok v st1 => .ok v st1
       | .panic w => .panic w
       | .oof => .oof
       | .fail st1 =>
         let st2 := st1.rewind c
         match st2.alt with
         | none => .panic pUnwrapRecovery
         | some alt =>
           match skipUntilLoop R env m skip until_ fb alt L { st2 with alt := none } with
           | .ok v st3 => .ok v st3
           | .fail st3 => .fail (st3.rewind c)
           | .panic w => .panic w
           | .oof => .oof) := rfl

@[step_eqs] theorem step_recoverSkipRetry (a skip until_) :
    step R N K L env m (.recoverSkipRetry a skip until_) st =
      (let c := st.save
       match R env m a st with
       | .ok v st1 => .ok v st1
       | .panic w => .panic w
       | .oof => .oof
       | .fail st1 =>
         let st2 := st1.rewind c
         match st2.alt with
         | none => .panic pUnwrapRecovery
         | some alt =>
           match skipRetryLoop R env m a skip until_ alt L { st2 with alt := none } with
           | .ok v st3 => .ok v st3
           | .fail st3 => .fail (st3.rewind c)
           | .panic w => .panic w
           | .oof => .oof) := rfl

@[step_eqs] theorem step_labelled (l asCtx a) :
    step R N K L env m (.labelled l asCtx a) st =
      (let old := st.alt
       let c := st.save
       let finish (st1 : St) : St :=
         let new := st1.alt
         let st2 := { st1 with alt := old }
         let st3 :=
           match new with
           | none => st2
           | some n =>
             let e :=
               if n.pos == c.pos then env.ek.labelWith n.err l
               else if asCtx && n.pos > c.pos then env.ek.inContext n.err l (env.mkSpan c.pos n.pos)
               else n.err
             St.readdAlt env st2 (some ⟨n.pos, e⟩)
         if asCtx then { st3 with errs := ctxSecondary env l c.pos c.errCount st3.errs } else st3
       match R env m a { st with alt := none } with
       | .ok v st1 => .ok v (finish st1)
       | .fail st1 => .fail (finish st1)
       | .panic w => .panic w
       | .oof => .oof) := rfl

@[step_eqs] theorem step_mapErr (k a) :
    step R N K L env m (.mapErr k a) st =
      (let old := st.alt
       match R env m a { st with alt := none } with
       | .panic w => .panic w
       | .oof => .oof
       | .fail st1 =>
         match st1.alt with
         | none => .panic pUnwrapMapErr
         | some n => .fail (St.readdAlt env { st1 with alt := old } (some ⟨n.pos, env.ek.labelWith n.err k⟩))
       | .ok v st1 => .ok v (St.readdAlt env { st1 with alt := old } st1.alt)) := rfl

@[step_eqs] theorem step_withCtx (cv a) :
    step R N K L env m (.withCtx cv a) st =
      (R env m a { st with ctx := cv }).restoreCtx st.ctx := rfl

@[step_eqs] theorem step_ignoreWithCtx (a b) :
    step R N K L env m (.ignoreWithCtx a b) st =
      ((R env .emit a st).andThen fun va st1 =>
         (R env m b { st1 with ctx := va }).restoreCtx st.ctx) := rfl

@[step_eqs] theorem step_thenWithCtx (a b) :
    step R N K L env m (.thenWithCtx a b) st =
      ((R env .emit a st).andThen fun va st1 =>
         ((R env m b { st1 with ctx := va }).restoreCtx st.ctx).andThen fun vb st2 =>
           .ok (m.bind (.pair va vb)) st2) := rfl

@[step_eqs] theorem step_mapCtx (f a) :
    step R N K L env m (.mapCtx f a) st =
      (R env m a { st with ctx := f.eval st.ctx }).restoreCtx st.ctx := rfl

@[step_eqs] theorem step_configureJust (c ts) :
    step R N K L env m (.configureJust c ts) st =
      (let seq := match c with
         | .seqFromCtx => (st.ctx.asToks?).getD ts
         | _ => ts
       match justRun env seq st with
       | .inr st' => .ok (m.bind (.toks seq)) st'
       | .inl st' => .fail st') := rfl

@[step_eqs] theorem step_withState (a) :
    step R N K L env m (.withState a) st =
      (R env m a { st with insp := [] }).restoreInsp st.insp := rfl

@[step_eqs] theorem step_memoized (id a) :
    step R N K L env m (.memoized id a) st =
      (if !env.memoOn then R env m a st else
       let key := (st.pos, id)
       match memoFind st.memo key with
       | some (some e) => .fail (St.addAltErr env st e.pos e.err)
       | some none => .fail (st.addAlt env [] none (env.mkSpan st.pos st.pos))
       | none =>
         let old := st.alt
         let st0 := { st with memo := memoInsert st.memo key none, alt := none }
         match R env m a st0 with
         | .panic w => .panic w
         | .oof => .oof
         | .ok v st1 =>
           let st2 := St.readdAlt env { st1 with alt := old } st1.alt
           .ok v { st2 with memo := memoRemove st2.memo key }
         | .fail st1 =>
           let new := st1.alt
           let st2 := St.readdAlt env { st1 with alt := old } new
           .fail { st2 with memo := memoInsert st2.memo key new }) := rfl

@[step_eqs] theorem step_call (k) :
    step R N K L env m (.call k) st =
      (match env.defs[k]? with
       | some d => R env m d st
       | none => .panic pUndefined) := rfl

@[step_eqs] theorem step_boxed (a) :
    step R N K L env m (.boxed a) st =
      R env m a st := rfl

/-! `stepNext` on the iterator states that `make_iter` / `next` of the same iterable parser produce -/

@[step_eqs] theorem stepNext_repeated (a lo hi n) :
    stepNext R N K env m (.repeated a lo hi) st (.cnt n) = repeatedNext R env m a lo hi st n id := rfl

@[step_eqs] theorem stepNext_separatedBy (a sep lo hi lead trail n) :
    stepNext R N K env m (.separatedBy a sep lo hi lead trail) st (.cnt n) =
      separatedNext R env m a sep lo hi lead trail st n := rfl

@[step_eqs] theorem stepNext_enumerate (inner k s) :
    stepNext R N K env m (.enumerate inner) st (.enum k s) =
      (match N env m inner st s with
       | .some v st1 s1 => .some (m.bind (.pair (.nat k) v)) st1 (.enum (k + 1) s1)
       | .done st1 s1 => .done st1 (.enum (k + 1) s1)
       | .fail st1 => .fail st1
       | .panic w => .panic w
       | .oof => .oof) := rfl

@[step_eqs] theorem stepNext_orNotIt (a b) :
    stepNext R N K env m (.orNotIt a) st (.fin b) =
      (if b then .done st (.fin true)
       else
         let c := st.save
         match R env m a st with
         | .ok v st1 => .some v st1 (.fin true)
         | .fail st1 => .done (st1.rewind c) (.fin true)
         | .panic w => .panic w
         | .oof => .oof) := rfl

@[step_eqs] theorem stepNext_intoIter (a vs) :
    stepNext R N K env m (.intoIter a) st (.into vs) =
      (match vs with
       | [] => .done st (.into [])
       | v :: rest => .some (m.bind v) st (.into rest)) := rfl

@[step_eqs] theorem stepNext_thenIt_some (a b sa sb) :
    stepNext R N K env m (.thenIt a b) st (.thn sa (some sb)) =
      (match N env m b st sb with
       | .some v st1 sb1 => .some v st1 (.thn sa (some sb1))
       | .done st1 sb1 => .done st1 (.thn sa (some sb1))
       | .fail st1 => .fail st1
       | .panic w => .panic w
       | .oof => .oof) := rfl

@[step_eqs] theorem stepNext_thenIt_none (a b sa) :
    stepNext R N K env m (.thenIt a b) st (.thn sa none) =
      (match N env m a st sa with
       | .some v st1 sa1 => .some v st1 (.thn sa1 none)
       | .fail st1 => .fail st1
       | .panic w => .panic w
       | .oof => .oof
       | .done st1 sa1 =>
         match K env m b st1 with
         | .fail st2 => .fail st2
         | .panic w => .panic w
         | .oof => .oof
         | .ok sb st2 =>
           match N env m b st2 sb with
           | .some v st3 sb1 => .some v st3 (.thn sa1 (some sb1))
           | .done st3 sb1 => .done st3 (.thn sa1 (some sb1))
           | .fail st3 => .fail st3
           | .panic w => .panic w
           | .oof => .oof) := rfl

@[step_eqs] theorem stepNext_mapIt (f inner s) :
    stepNext R N K env m (.mapIt f inner) st s =
      (match N env m inner st s with
       | .some v st1 s1 => .some (match m with | .emit => f.eval v | .check => .unit) st1 s1
       | o => o) := rfl

@[step_eqs] theorem stepNext_configureRep (c a lo hi n clo chi) :
    stepNext R N K env m (.configureRep c (.repeated a lo hi)) st (.cfg (.cnt n) clo chi) =
      repeatedNext R env m a (clo.getD lo) (match chi with | some h => some h | none => hi) st n
        (fun s => .cfg s clo chi) := rfl

@[step_eqs] theorem stepNext_tryConfigureRep (c a lo hi n clo chi) :
    stepNext R N K env m (.tryConfigureRep c (.repeated a lo hi)) st (.cfg (.cnt n) clo chi) =
      repeatedNext R env m a (clo.getD lo) (match chi with | some h => some h | none => hi) st n
        (fun s => .cfg s clo chi) := rfl

/-! `separatedNext` tries a separator and then an item; the item part is its local function `item`, named here so that a
    fact about it is proved once per simulation instead of once per branch -/

/-- the local function `item` of `separatedNext`: one item from `st0`; `c` is the checkpoint taken before the
    separator -/
def sepNextItem (R : Runner) (env : Env) (m : Mode) (a : G) (lo : Nat) (trail : Bool) (c : Chk) (n : Nat)
    (st0 : St) : ItOut :=
  match R env m a st0 with
  | .ok v st1 => .some v st1 (.cnt (n + 1))
  | .fail st1 =>
    if n < lo then .fail (st1.rewind c)
    else if trail then .done (st1.rewind st0.save) (.cnt n)
    else .done (st1.rewind c) (.cnt n)
  | .panic w => .panic w
  | .oof => .oof

theorem separatedNext_eq (R : Runner) (env : Env) (m : Mode) (a sep : G) (lo : Nat) (hi : Option Nat)
    (lead trail : Bool) (st : St) (n : Nat) :
    separatedNext R env m a sep lo hi lead trail st n =
      if capReached hi n then .done st (.cnt n)
      else if n == 0 && lead then
        match R env .check sep st with
        | .ok _ st1 => sepNextItem R env m a lo trail st.save n st1
        | .fail st1 => sepNextItem R env m a lo trail st.save n (st1.rewind st.save)
        | .panic w => .panic w
        | .oof => .oof
      else if n > 0 then
        match R env .check sep st with
        | .ok _ st1 => sepNextItem R env m a lo trail st.save n st1
        | .fail st1 => if n < lo then .fail (st1.rewind st.save) else .done (st1.rewind st.save) (.cnt n)
        | .panic w => .panic w
        | .oof => .oof
      else sepNextItem R env m a lo trail st.save n st := rfl

end machine

/-! ### the reading -/

section reading
variable (P : SRunner) (N : SNextRunner) (K : SMkRunner) (L : Nat) (env : Env) (s : SS) (ctx : Val)

@[step_eqs] theorem pegStep_end :
    pegStep P N K L env .end_ s ctx =
      (match env.toks[s.pos]? with
       | none => .ok .unit s []
       | some _ => .fail) := rfl

@[step_eqs] theorem pegStep_empty :
    pegStep P N K L env .empty s ctx =
      .ok .unit s [] := rfl

@[step_eqs] theorem pegStep_any :
    pegStep P N K L env .any s ctx =
      sTokenPrim env s (fun t => some (.tok t)) := rfl

@[step_eqs] theorem pegStep_just (ts) :
    pegStep P N K L env (.just ts) s ctx =
      (match sJust env ts s with
       | some s' => .ok (.toks ts) s' []
       | none => .fail) := rfl

@[step_eqs] theorem pegStep_oneOf (ts) :
    pegStep P N K L env (.oneOf ts) s ctx =
      sTokenPrim env s (fun t => if ts.contains t then some (.tok t) else none) := rfl

@[step_eqs] theorem pegStep_noneOf (ts) :
    pegStep P N K L env (.noneOf ts) s ctx =
      sTokenPrim env s (fun t => if ts.contains t then none else some (.tok t)) := rfl

@[step_eqs] theorem pegStep_select (ts) :
    pegStep P N K L env (.select ts) s ctx =
      sTokenPrim env s (fun t => if ts.contains t then some (.tag 7 (.tok t)) else none) := rfl

@[step_eqs] theorem pegStep_custom (f) :
    pegStep P N K L env (.custom f) s ctx =
      sCustom env f s := rfl

@[step_eqs] theorem pegStep_todo :
    pegStep P N K L env .todo s ctx =
      .panic pTodo := rfl

@[step_eqs] theorem pegStep_then (a b) :
    pegStep P N K L env (.then_ a b) s ctx =
      ((P env a s ctx).andThen fun va s1 e1 =>
       (P env b s1 ctx).andThen fun vb s2 e2 => .ok (.pair va vb) s2 (e1 ++ e2)) := rfl

@[step_eqs] theorem pegStep_ignoreThen (a b) :
    pegStep P N K L env (.ignoreThen a b) s ctx =
      ((P env a s ctx).andThen fun _ s1 e1 =>
       (P env b s1 ctx).andThen fun vb s2 e2 => .ok vb s2 (e1 ++ e2)) := rfl

@[step_eqs] theorem pegStep_thenIgnore (a b) :
    pegStep P N K L env (.thenIgnore a b) s ctx =
      ((P env a s ctx).andThen fun va s1 e1 =>
       (P env b s1 ctx).andThen fun _ s2 e2 => .ok va s2 (e1 ++ e2)) := rfl

@[step_eqs] theorem pegStep_delimitedBy (a l r) :
    pegStep P N K L env (.delimitedBy a l r) s ctx =
      ((P env l s ctx).andThen fun _ s1 e1 =>
       (P env a s1 ctx).andThen fun va s2 e2 =>
       (P env r s2 ctx).andThen fun _ s3 e3 => .ok va s3 (e1 ++ e2 ++ e3)) := rfl

@[step_eqs] theorem pegStep_paddedBy (a p) :
    pegStep P N K L env (.paddedBy a p) s ctx =
      ((P env p s ctx).andThen fun _ s1 e1 =>
       (P env a s1 ctx).andThen fun va s2 e2 =>
       (P env p s2 ctx).andThen fun _ s3 e3 => .ok va s3 (e1 ++ e2 ++ e3)) := rfl

@[step_eqs] theorem pegStep_group (gs) :
    pegStep P N K L env (.group gs) s ctx =
      sGroup P env ctx gs s [] [] := rfl

@[step_eqs] theorem pegStep_groupArr (gs) :
    pegStep P N K L env (.groupArr gs) s ctx =
      sGroup P env ctx gs s [] [] := rfl

@[step_eqs] theorem pegStep_or (a b) :
    pegStep P N K L env (.or_ a b) s ctx =
      sChoice P env ctx s [a, b] := rfl

@[step_eqs] theorem pegStep_orNot (a) :
    pegStep P N K L env (.orNot a) s ctx =
      (match P env a s ctx with
       | .ok v s' em => .ok (.some v) s' em
       | .fail => .ok .none s []
       | .panic w => .panic w
       | .oof => .oof) := rfl

@[step_eqs] theorem pegStep_not (a) :
    pegStep P N K L env (.not_ a) s ctx =
      (match P env a s ctx with
       | .ok .. => .fail
       | .fail => .ok .unit s []
       | .panic w => .panic w
       | .oof => .oof) := rfl

@[step_eqs] theorem pegStep_andIs (a b) :
    pegStep P N K L env (.andIs a b) s ctx =
      ((P env a s ctx).andThen fun v s1 e1 =>
       (P env b s ctx).andThen fun _ _ e2 => .ok v s1 (e1 ++ e2)) := rfl

@[step_eqs] theorem pegStep_rewind (a) :
    pegStep P N K L env (.rewind a) s ctx =
      (P env a s ctx).andThen fun v _ e1 => .ok v s e1 := rfl

@[step_eqs] theorem pegStep_map (f a) :
    pegStep P N K L env (.map f a) s ctx =
      (P env a s ctx).andThen fun v s1 e1 => .ok (f.eval v) s1 e1 := rfl

@[step_eqs] theorem pegStep_to (v a) :
    pegStep P N K L env (.to v a) s ctx =
      (P env a s ctx).andThen fun _ s1 e1 => .ok v s1 e1 := rfl

@[step_eqs] theorem pegStep_ignored (a) :
    pegStep P N K L env (.ignored a) s ctx =
      (P env a s ctx).andThen fun _ s1 e1 => .ok .unit s1 e1 := rfl

@[step_eqs] theorem pegStep_filter (p a) :
    pegStep P N K L env (.filter p a) s ctx =
      (P env a s ctx).andThen fun v s1 e1 => if p.eval v then .ok v s1 e1 else .fail := rfl

@[step_eqs] theorem pegStep_tryMap (f a) :
    pegStep P N K L env (.tryMap f a) s ctx =
      ((P env a s ctx).andThen fun v s1 e1 =>
         if f.rejectIf.eval v then .fail else .ok (.tag f.tag v) s1 e1) := rfl

@[step_eqs] theorem pegStep_tryMapWith (f a) :
    pegStep P N K L env (.tryMapWith f a) s ctx =
      ((P env a s ctx).andThen fun v s1 e1 =>
         if f.rejectIf.eval v then .fail else .ok (.tag f.tag v) s1 e1) := rfl

@[step_eqs] theorem pegStep_toSpan (a) :
    pegStep P N K L env (.toSpan a) s ctx =
      ((P env a s ctx).andThen fun _ s1 e1 =>
         let sp := env.mkSpan s.pos s1.pos; .ok (.span sp.1 sp.2) s1 e1) := rfl

@[step_eqs] theorem pegStep_toSlice (a) :
    pegStep P N K L env (.toSlice a) s ctx =
      (P env a s ctx).andThen fun _ s1 e1 => .ok (.slice (env.off s.pos) (env.off s1.pos)) s1 e1 := rfl

@[step_eqs] theorem pegStep_mapWithSpan (a) :
    pegStep P N K L env (.mapWithSpan a) s ctx =
      ((P env a s ctx).andThen fun v s1 e1 =>
         let sp := env.mkSpan s.pos s1.pos; .ok (.pair v (.span sp.1 sp.2)) s1 e1) := rfl

@[step_eqs] theorem pegStep_mapWithState (a) :
    pegStep P N K L env (.mapWithState a) s ctx =
      (P env a s ctx).andThen fun v s1 e1 => .ok (.pair v (.insp s1.insp)) s1 e1 := rfl

@[step_eqs] theorem pegStep_mapWithCtx (a) :
    pegStep P N K L env (.mapWithCtx a) s ctx =
      (P env a s ctx).andThen fun v s1 e1 => .ok (.pair v ctx) s1 e1 := rfl

@[step_eqs] theorem pegStep_validate (f a) :
    pegStep P N K L env (.validate f a) s ctx =
      ((P env a s ctx).andThen fun v s1 e1 =>
         let e := env.ek.userErr (env.mkSpan s.pos s1.pos) f.msg
         .ok v s1 (if f.emitIf.eval v then e1 ++ List.replicate f.count (.user ⟨s.pos, e⟩) else e1)) := rfl

@[step_eqs] theorem pegStep_collect (k it) :
    pegStep P N K L env (.collect k it) s ctx =
      (match K env it s ctx with
       | .ok ist s1 em => sCollectLoop N env ctx it k L s1 ist [] 0 em
       | .fail => .fail
       | .panic w => .panic w
       | .oof => .oof) := rfl

@[step_eqs] theorem pegStep_collectExactly (n it) :
    pegStep P N K L env (.collectExactly n it) s ctx =
      (match K env it s ctx with
       | .ok ist s1 em => sCollectExactlyLoop N env ctx it n s1 ist [] em
       | .fail => .fail
       | .panic w => .panic w
       | .oof => .oof) := rfl

@[step_eqs] theorem pegStep_foldl (f a it) :
    pegStep P N K L env (.foldl f a it) s ctx =
      ((P env a s ctx).andThen fun va s1 e1 =>
       match K env it s1 ctx with
       | .ok ist s2 e2 => sFoldlLoop N env ctx it (fun acc x _ => f.evalL acc x) L s2 ist va (e1 ++ e2)
       | .fail => .fail
       | .panic w => .panic w
       | .oof => .oof) := rfl

@[step_eqs] theorem pegStep_foldlWith (a it) :
    pegStep P N K L env (.foldlWith a it) s ctx =
      ((P env a s ctx).andThen fun va s1 e1 =>
       match K env it s1 ctx with
       | .ok ist s2 e2 =>
         sFoldlLoop N env ctx it (fun acc x s' =>
           let sp := env.mkSpan s.pos s'.pos
           .pair (.pair acc x) (.span sp.1 sp.2)) L s2 ist va (e1 ++ e2)
       | .fail => .fail
       | .panic w => .panic w
       | .oof => .oof) := rfl

@[step_eqs] theorem pegStep_foldr (f it b) :
    pegStep P N K L env (.foldr f it b) s ctx =
      (match K env it s ctx with
       | .fail => .fail
       | .panic w => .panic w
       | .oof => .oof
       | .ok ist s1 e1 =>
         match sFoldrCollect N env ctx it L s1 ist [] e1 with
         | .inr o => o
         | .inl none => .oof
         | .inl (some (items, s2, e2)) =>
           (P env b s2 ctx).andThen fun vb s3 e3 =>
             .ok (items.foldl (fun acc (x : Val × Nat) => f.evalR x.1 acc) vb) s3 (e2 ++ e3)) := rfl

@[step_eqs] theorem pegStep_foldrWith (it b) :
    pegStep P N K L env (.foldrWith it b) s ctx =
      (match K env it s ctx with
       | .fail => .fail
       | .panic w => .panic w
       | .oof => .oof
       | .ok ist s1 e1 =>
         match sFoldrCollect N env ctx it L s1 ist [] e1 with
         | .inr o => o
         | .inl none => .oof
         | .inl (some (items, s2, e2)) =>
           (P env b s2 ctx).andThen fun vb s3 e3 =>
             .ok (items.foldl (fun acc (x : Val × Nat) =>
                    let sp := env.mkSpan x.2 s3.pos
                    .pair (.pair x.1 acc) (.span sp.1 sp.2)) vb) s3 (e2 ++ e3)) := rfl

@[step_eqs] theorem pegStep_iterP (it) :
    pegStep P N K L env (.iterP it) s ctx =
      (match it with
       | .repeated a 0 none => sRepeatFast P env ctx a L s []
       | .repeated .. | .separatedBy .. =>
         (match K env it s ctx with
          | .ok ist s1 em => sIterLoop N env ctx it true L s1 ist em
          | .fail => .fail
          | .panic w => .panic w
          | .oof => .oof)
       | .configureRep .. | .tryConfigureRep .. =>
         (match K env it s ctx with
          | .ok ist s1 em => sIterLoop N env ctx it false L s1 ist em
          | .fail => .fail
          | .panic w => .panic w
          | .oof => .oof)
       | .intoIter a => (P env a s ctx).andThen fun _ s1 e1 => .ok .unit s1 e1
       | _ => .panic pIllTyped) := rfl

@[step_eqs] theorem pegStep_recoverVia (a r) :
    pegStep P N K L env (.recoverVia a r) s ctx =
      (match P env a s ctx with
       | .ok v s1 em => .ok v s1 em
       | .panic w => .panic w
       | .oof => .oof
       | .fail =>
         match P env r s ctx with
         | .ok v s1 em => .ok v s1 (em ++ [.recovered s1.pos])
         | .fail => .fail
         | .panic w => .panic w
         | .oof => .oof) := rfl

@[step_eqs] theorem pegStep_recoverSkipUntil (a skip until_ fb) :
    pegStep P N K L env (.recoverSkipUntil a skip until_ fb) s ctx =
      (match P env a s ctx with
       | .ok v s1 em => .ok v s1 em
       | .panic w => .panic w
       | .oof => .oof
       | .fail => sSkipUntil P env ctx skip until_ fb L s []) := rfl

@[step_eqs] theorem pegStep_recoverSkipRetry (a skip until_) :
    pegStep P N K L env (.recoverSkipRetry a skip until_) s ctx =
      (match P env a s ctx with
       | .ok v s1 em => .ok v s1 em
       | .panic w => .panic w
       | .oof => .oof
       | .fail => sSkipRetry P env ctx a skip until_ L s []) := rfl

@[step_eqs] theorem pegStep_labelled (l asCtx a) :
    pegStep P N K L env (.labelled l asCtx a) s ctx =
      ((P env a s ctx).andThen fun v s1 e1 =>
         .ok v s1 (if asCtx then e1.map (Emis.inCtx env l s.pos) else e1)) := rfl

@[step_eqs] theorem pegStep_mapErr (k a) :
    pegStep P N K L env (.mapErr k a) s ctx =
      P env a s ctx := rfl

@[step_eqs] theorem pegStep_withCtx (cv a) :
    pegStep P N K L env (.withCtx cv a) s ctx =
      P env a s cv := rfl

@[step_eqs] theorem pegStep_ignoreWithCtx (a b) :
    pegStep P N K L env (.ignoreWithCtx a b) s ctx =
      ((P env a s ctx).andThen fun va s1 e1 =>
       (P env b s1 va).andThen fun vb s2 e2 => .ok vb s2 (e1 ++ e2)) := rfl

@[step_eqs] theorem pegStep_thenWithCtx (a b) :
    pegStep P N K L env (.thenWithCtx a b) s ctx =
      ((P env a s ctx).andThen fun va s1 e1 =>
       (P env b s1 va).andThen fun vb s2 e2 => .ok (.pair va vb) s2 (e1 ++ e2)) := rfl

@[step_eqs] theorem pegStep_mapCtx (f a) :
    pegStep P N K L env (.mapCtx f a) s ctx =
      P env a s (f.eval ctx) := rfl

@[step_eqs] theorem pegStep_configureJust (c ts) :
    pegStep P N K L env (.configureJust c ts) s ctx =
      (let seq := match c with
         | .seqFromCtx => (ctx.asToks?).getD ts
         | _ => ts
       match sJust env seq s with
       | some s' => .ok (.toks seq) s' []
       | none => .fail) := rfl

@[step_eqs] theorem pegStep_withState (a) :
    pegStep P N K L env (.withState a) s ctx =
      (P env a ⟨s.pos, []⟩ ctx).andThen fun v s1 e1 => .ok v ⟨s1.pos, s.insp⟩ e1 := rfl

@[step_eqs] theorem pegStep_memoized (id a) :
    pegStep P N K L env (.memoized id a) s ctx =
      P env a s ctx := rfl

@[step_eqs] theorem pegStep_call (k) :
    pegStep P N K L env (.call k) s ctx =
      (match env.defs[k]? with
       | some d => P env d s ctx
       | none => .panic pUndefined) := rfl

@[step_eqs] theorem pegStep_boxed (a) :
    pegStep P N K L env (.boxed a) s ctx =
      P env a s ctx := rfl

@[step_eqs] theorem pegStep_choice_tuple_nil :
    pegStep P N K L env (.choice .tuple []) s ctx = .panic pIllTyped := rfl

@[step_eqs] theorem pegStep_choice_tuple_cons (g gs) :
    pegStep P N K L env (.choice .tuple (g :: gs)) s ctx = sChoice P env ctx s (g :: gs) := rfl

@[step_eqs] theorem pegStep_choice_slice (gs) :
    pegStep P N K L env (.choice .slice gs) s ctx = sChoice P env ctx s gs := rfl

/-! `pegNext`, likewise -/

@[step_eqs] theorem pegNext_repeated (a lo hi n) :
    pegNext P N K env (.repeated a lo hi) s ctx (.cnt n) = sRepeatedNext P env ctx a lo hi s n id := rfl

@[step_eqs] theorem pegNext_separatedBy (a sep lo hi lead trail n) :
    pegNext P N K env (.separatedBy a sep lo hi lead trail) s ctx (.cnt n) =
      sSeparatedNext P env ctx a sep lo hi lead trail s n := rfl

@[step_eqs] theorem pegNext_enumerate (inner k st) :
    pegNext P N K env (.enumerate inner) s ctx (.enum k st) =
      (match N env inner s ctx st with
       | .some v s1 st1 em => .some (.pair (.nat k) v) s1 (.enum (k + 1) st1) em
       | .done s1 st1 em => .done s1 (.enum (k + 1) st1) em
       | .fail => .fail
       | .panic w => .panic w
       | .oof => .oof) := rfl

@[step_eqs] theorem pegNext_orNotIt (a b) :
    pegNext P N K env (.orNotIt a) s ctx (.fin b) =
      (if b then .done s (.fin true) []
       else
         match P env a s ctx with
         | .ok v s1 em => .some v s1 (.fin true) em
         | .fail => .done s (.fin true) []
         | .panic w => .panic w
         | .oof => .oof) := rfl

@[step_eqs] theorem pegNext_intoIter (a vs) :
    pegNext P N K env (.intoIter a) s ctx (.into vs) =
      (match vs with
       | [] => .done s (.into []) []
       | v :: rest => .some v s (.into rest) []) := rfl

@[step_eqs] theorem pegNext_thenIt_some (a b sa sb) :
    pegNext P N K env (.thenIt a b) s ctx (.thn sa (some sb)) =
      (match N env b s ctx sb with
       | .some v s1 sb1 em => .some v s1 (.thn sa (some sb1)) em
       | .done s1 sb1 em => .done s1 (.thn sa (some sb1)) em
       | .fail => .fail
       | .panic w => .panic w
       | .oof => .oof) := rfl

@[step_eqs] theorem pegNext_thenIt_none (a b sa) :
    pegNext P N K env (.thenIt a b) s ctx (.thn sa none) =
      (match N env a s ctx sa with
       | .some v s1 sa1 em => .some v s1 (.thn sa1 none) em
       | .fail => .fail
       | .panic w => .panic w
       | .oof => .oof
       | .done s1 sa1 e1 =>
         match K env b s1 ctx with
         | .fail => .fail
         | .panic w => .panic w
         | .oof => .oof
         | .ok sb s2 e2 =>
           match N env b s2 ctx sb with
           | .some v s3 sb1 e3 => .some v s3 (.thn sa1 (some sb1)) (e1 ++ e2 ++ e3)
           | .done s3 sb1 e3 => .done s3 (.thn sa1 (some sb1)) (e1 ++ e2 ++ e3)
           | .fail => .fail
           | .panic w => .panic w
           | .oof => .oof) := rfl

@[step_eqs] theorem pegNext_mapIt (f inner st) :
    pegNext P N K env (.mapIt f inner) s ctx st =
      (match N env inner s ctx st with
       | .some v s1 st1 em => .some (f.eval v) s1 st1 em
       | o => o) := rfl

@[step_eqs] theorem pegNext_configureRep (c a lo hi n clo chi) :
    pegNext P N K env (.configureRep c (.repeated a lo hi)) s ctx (.cfg (.cnt n) clo chi) =
      sRepeatedNext P env ctx a (clo.getD lo) (match chi with | some h => some h | none => hi) s n
        (fun st => .cfg st clo chi) := rfl

@[step_eqs] theorem pegNext_tryConfigureRep (c a lo hi n clo chi) :
    pegNext P N K env (.tryConfigureRep c (.repeated a lo hi)) s ctx (.cfg (.cnt n) clo chi) =
      sRepeatedNext P env ctx a (clo.getD lo) (match chi with | some h => some h | none => hi) s n
        (fun st => .cfg st clo chi) := rfl

end reading

/-! ### the top level -/

/-- the last step of `parseTop` (and of its variants for the extensions): the result record made from the outcome of
    the run -/
def Out.top (env : Env) : Out → TopOut
  | .panic w => .panic w
  | .oof => .oof
  | .ok v st => .result ⟨some v, st.errs.map (·.err)⟩ st
  | .fail st =>
    let alt := match st.alt with
      | some a => a.err
      | none => env.ek.expectedFound [] none (env.mkSpan st.pos st.pos)
    .result ⟨none, st.errs.map (·.err) ++ [alt]⟩ st

theorem parseTop_eq_top (n : Nat) (env : Env) (m : Mode) (g : G) :
    parseTop n env m g = (run n env m (.thenIgnore g .end_) St.init).top env := rfl

/-- a result record comes from a run that succeeded or failed, and shows which -/
theorem Out.top_result {env : Env} {o : Out} {r : ParseResult} {f : St} (h : o.top env = .result r f) :
    (∃ v, o = .ok v f ∧ r = ⟨some v, f.errs.map (·.err)⟩) ∨
    (o = .fail f ∧
      r = ⟨none, f.errs.map (·.err) ++ [match f.alt with
        | some a => a.err
        | none => env.ek.expectedFound [] none (env.mkSpan f.pos f.pos)]⟩) := by
  cases o with
  | ok v st => cases h; exact .inl ⟨v, rfl, rfl⟩
  | fail st => cases h; exact .inr ⟨rfl, rfl⟩
  | panic w => cases h
  | oof => cases h

/-- failure is always reported through the error list -/
theorem Out.top_no_output {env : Env} {o : Out} {r : ParseResult} {f : St} (h : o.top env = .result r f)
    (ho : r.output = none) : r.errs ≠ [] := by
  rcases Out.top_result h with ⟨v, _, rfl⟩ | ⟨_, rfl⟩
  · cases ho
  · simp

end Chumsky
