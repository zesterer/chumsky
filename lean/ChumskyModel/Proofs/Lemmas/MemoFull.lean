/-
  Proofs/Lemmas/MemoFull.lean — C11, the global theorem: `memoized()` is transparent, by induction on the fuel and cases on
  every constructor of a syntactic class.

  THE CLASS  `G.memoSafe ve : G → Bool`  (`ve = true`: additionally no `validate`): every constructor, `memoized id a`
  at any node, EXCEPT
      call                                   — recursion: a hit saves fuel, so ON and OFF cannot be compared at the same
                                               fuel (`cex_fuel`); left recursion is therefore outside the class, too
      mapWithState mapWithCtx configureJust  — read the inspector / the context: a memoized body must be determined by the
      configureRep tryConfigureRep             position (`cex_ctx`)
      withCtx ignoreWithCtx thenWithCtx mapCtx — context providers (harmless, not done)
      recoverVia recoverSkipUntil recoverSkipRetry — recovery emits the sheltered pending error (`cex_recovery`: false)
  HYPOTHESES: `g.memoSafe ve`, `g.memoIds.Nodup` (pairwise distinct memo ids: then every node sits at one depth, its body
  always runs at the same fuel, and no node lies inside itself, so no in-progress marker of its own is ever hit), and for
  the start state: the table invariant `TableInv` (trivial for the empty table) and no in-progress marker for an id of `g`.

  MAIN RESULTS (namespace `Chumsky`)
      run_memo_transparent          run N env(ON) m g s  vs  run N (env.withMemo false) m g t, from `MRel env.ek o s t`
                                    (any sheltered offset `o`): `MOutRel`
      run_memo_errs_stable          `ve = true`: every result state (failed ones too) has the secondary errors of the start
      parseTop_memo_transparent     `TopMemoRel`; `_full` (`ve = true`): `TopMemoRelFull`
      parseTop_memo_vs_plain(_full) the same against the grammar with all `memoized` nodes removed (`G.stripMemo`)
      MF.posDetermined_run          (iii) of MemoSim for `run`: OFF, a failure of a `memoSafe` grammar and the error it
                                    contributes are determined by the position alone (`PosDetermined (run n) env a`)
  Why only the primary error on a failed parse in the presence of `validate`: after a *hit* the ON run has not re-emitted
  the secondary errors the body emitted before failing (`FRel` relates only the frames, as in the library); every caller
  that continues rewinds them away, but a failure that reaches the top keeps them.  (`ve = true`: there are none.)

  HOW.  One two-run simulation (`MF.step_sim`, `MF.stepNext_sim`, `MF.stepMk_sim`, `MF.all_sim`) in the relations
      `WRel o s t`   pos equal,  alt_t ≈ o ⊕ alt_s,  and IF `F`: errs, insp, ctx equal            (`MRel` when `F`)
      `WOk`          `WRel` + inside the caller's frame `(base, c)`: IF `F`: base <+: errs, ctx = c; table predicate
      `WFail`        alt_s is some, alt_t ≈ o ⊕ alt_s, and IF `F`: base <+: both errs, both ctx = c   (`FRel` when `F`)
  instantiated twice:
      OFF vs OFF with `F := False` — from states that agree on the position only; this yields `posDetermined_run`
          (run once from `alt = none`, then the simulation with offset `t'.alt` against any other state `t'`; the mode
          by ModeSim, the frame of the failing state by I1 `run_refines`);
      ON vs OFF with `F := True` — the `memoized` case is `step_memoized_transparent` of MemoSim (miss/ok, miss/fail,
          hit), fed with the induction hypothesis for the body and with `posDetermined_run` for (iii).
  Every constructor preserves the relation *for an arbitrary offset* because both runs merge the same new error into
  their pending error (`alt_merge`: `⊕` is associative and a congruence up to `OptLoc.equiv`), and every combinator that
  continues after a failed sub-run rewinds to a checkpoint of a state whose frame the failure was measured in
  (`WFail.rewind`).  A sub-run of the two runs gives a related pair of outcomes (`SimR.at`, `SimN.at`, `SimK.at`), and
  the `match` both runs make on it is related alternative by alternative (`WRun.bind`, `WRun.andThen`, `WMk.bind`,
  `WIt.bind`, in general `elim`).  The table invariant is threaded as `Cx.Pre` / `Cx.Post` (`TableInv`, no in-progress
  entry of a node below, `InProgSub`).  The nodes of the top grammar with the depth of their bodies (`G.memoNodes`)
  give `B`/`Rof` of MemoSim: `memoB`, `memoRof N` (body of a node at depth `k` runs with `run (N - k)`).
-/
import ChumskyModel.Proofs.Lemmas.MemoSim
import ChumskyModel.Proofs.Lemmas.MemoOff
import ChumskyModel.Proofs.Lemmas.Master
import ChumskyModel.Proofs.Lemmas.ModeSim
namespace Chumsky

/-- a memo node: (id, body, depth of the body) — a grammar at depth `d` is run by `run (N - d)` -/
abbrev MNode := Nat × G × Nat
abbrev Memo := List ((Nat × Nat) × Option Loc)

mutual
def G.memoSafe (ve : Bool) : G → Bool
  | .end_ => true
  | .empty => true
  | .any => true
  | .just _ => true
  | .oneOf _ => true
  | .noneOf _ => true
  | .select _ => true
  | .custom _ => true
  | .todo => true
  | .then_ a b => G.memoSafe ve a && G.memoSafe ve b
  | .ignoreThen a b => G.memoSafe ve a && G.memoSafe ve b
  | .thenIgnore a b => G.memoSafe ve a && G.memoSafe ve b
  | .delimitedBy a l r => G.memoSafe ve a && G.memoSafe ve l && G.memoSafe ve r
  | .paddedBy a p => G.memoSafe ve a && G.memoSafe ve p
  | .group gs => memoSafeL ve gs
  | .groupArr gs => memoSafeL ve gs
  | .or_ a b => G.memoSafe ve a && G.memoSafe ve b
  | .choice _ gs => memoSafeL ve gs
  | .orNot a => G.memoSafe ve a
  | .not_ a => G.memoSafe ve a
  | .andIs a b => G.memoSafe ve a && G.memoSafe ve b
  | .rewind a => G.memoSafe ve a
  | .map _ a => G.memoSafe ve a
  | .to _ a => G.memoSafe ve a
  | .ignored a => G.memoSafe ve a
  | .filter _ a => G.memoSafe ve a
  | .tryMap _ a => G.memoSafe ve a
  | .tryMapWith _ a => G.memoSafe ve a
  | .toSpan a => G.memoSafe ve a
  | .toSlice a => G.memoSafe ve a
  | .mapWithSpan a => G.memoSafe ve a
  | .mapWithState _ => false
  | .mapWithCtx _ => false
  | .validate _ a => !ve && G.memoSafe ve a
  | .collect _ it => It.memoSafe ve it
  | .collectExactly _ it => It.memoSafe ve it
  | .foldl _ a it => G.memoSafe ve a && It.memoSafe ve it
  | .foldr _ it b => It.memoSafe ve it && G.memoSafe ve b
  | .foldlWith a it => G.memoSafe ve a && It.memoSafe ve it
  | .foldrWith it b => It.memoSafe ve it && G.memoSafe ve b
  | .iterP it => It.memoSafe ve it
  | .recoverVia _ _ => false
  | .recoverSkipUntil _ _ _ _ => false
  | .recoverSkipRetry _ _ _ => false
  | .labelled _ _ a => G.memoSafe ve a
  | .mapErr _ a => G.memoSafe ve a
  | .withCtx _ _ => false
  | .ignoreWithCtx _ _ => false
  | .thenWithCtx _ _ => false
  | .mapCtx _ _ => false
  | .configureJust _ _ => false
  | .withState a => G.memoSafe ve a
  | .memoized _ a => G.memoSafe ve a
  | .call _ => false
  | .boxed a => G.memoSafe ve a
def It.memoSafe (ve : Bool) : It → Bool
  | .repeated a _ _ => G.memoSafe ve a
  | .separatedBy a sep _ _ _ _ => G.memoSafe ve a && G.memoSafe ve sep
  | .enumerate it => It.memoSafe ve it
  | .orNotIt a => G.memoSafe ve a
  | .intoIter a => G.memoSafe ve a
  | .thenIt a b => It.memoSafe ve a && It.memoSafe ve b
  | .mapIt _ it => It.memoSafe ve it
  | .configureRep _ _ => false
  | .tryConfigureRep _ _ => false
def memoSafeL (ve : Bool) : List G → Bool
  | [] => true
  | g :: gs => G.memoSafe ve g && memoSafeL ve gs
end


theorem and_imp₂ {a b a' b' : Bool} (ha : a = true → a' = true) (hb : b = true → b' = true)
    (h : (a && b) = true) : (a' && b') = true :=
  Bool.and_eq_true_iff.2 ⟨ha (Bool.and_eq_true_iff.1 h).1, hb (Bool.and_eq_true_iff.1 h).2⟩

mutual
theorem G.memoSafe_weaken' : ∀ g : G, g.memoSafe true = true → g.memoSafe false = true
  | .end_ | .empty | .any | .just _ | .oneOf _ | .noneOf _ | .select _ | .custom _ | .todo => fun _ => rfl
  | .mapWithState _ | .mapWithCtx _ | .validate _ _ | .recoverVia _ _ | .recoverSkipUntil _ _ _ _
  | .recoverSkipRetry _ _ _ | .withCtx _ _ | .ignoreWithCtx _ _ | .thenWithCtx _ _ | .mapCtx _ _ | .configureJust _ _
  | .call _ => fun h => nomatch h
  | .orNot a | .not_ a | .rewind a | .map _ a | .to _ a | .ignored a | .filter _ a | .tryMap _ a | .tryMapWith _ a
  | .toSpan a | .toSlice a | .mapWithSpan a | .labelled _ _ a | .mapErr _ a | .withState a | .memoized _ a
  | .boxed a => G.memoSafe_weaken' a
  | .then_ a b | .ignoreThen a b | .thenIgnore a b | .paddedBy a b | .or_ a b | .andIs a b =>
    and_imp₂ (G.memoSafe_weaken' a) (G.memoSafe_weaken' b)
  | .delimitedBy a l r => and_imp₂ (and_imp₂ (G.memoSafe_weaken' a) (G.memoSafe_weaken' l)) (G.memoSafe_weaken' r)
  | .group gs | .groupArr gs | .choice _ gs => memoSafeL_weaken' gs
  | .collect _ it | .collectExactly _ it | .iterP it => It.memoSafe_weaken' it
  | .foldl _ a it | .foldlWith a it => and_imp₂ (G.memoSafe_weaken' a) (It.memoSafe_weaken' it)
  | .foldr _ it a | .foldrWith it a => and_imp₂ (It.memoSafe_weaken' it) (G.memoSafe_weaken' a)
theorem It.memoSafe_weaken' : ∀ it : It, it.memoSafe true = true → it.memoSafe false = true
  | .repeated a _ _ | .orNotIt a | .intoIter a => G.memoSafe_weaken' a
  | .separatedBy a sep _ _ _ _ => and_imp₂ (G.memoSafe_weaken' a) (G.memoSafe_weaken' sep)
  | .enumerate it | .mapIt _ it => It.memoSafe_weaken' it
  | .thenIt a b => and_imp₂ (It.memoSafe_weaken' a) (It.memoSafe_weaken' b)
  | .configureRep _ _ | .tryConfigureRep _ _ => fun h => nomatch h
theorem memoSafeL_weaken' : ∀ gs : List G, memoSafeL true gs = true → memoSafeL false gs = true
  | [] => fun _ => rfl
  | g :: gs => and_imp₂ (G.memoSafe_weaken' g) (memoSafeL_weaken' gs)
end

mutual
def G.memoNodes : Nat → G → List MNode
  | _, .end_ => []
  | _, .empty => []
  | _, .any => []
  | _, .just _ => []
  | _, .oneOf _ => []
  | _, .noneOf _ => []
  | _, .select _ => []
  | _, .custom _ => []
  | _, .todo => []
  | d, .then_ a b => G.memoNodes (d + 1) a ++ G.memoNodes (d + 1) b
  | d, .ignoreThen a b => G.memoNodes (d + 1) a ++ G.memoNodes (d + 1) b
  | d, .thenIgnore a b => G.memoNodes (d + 1) a ++ G.memoNodes (d + 1) b
  | d, .delimitedBy a l r => G.memoNodes (d + 1) a ++ (G.memoNodes (d + 1) l ++ G.memoNodes (d + 1) r)
  | d, .paddedBy a p => G.memoNodes (d + 1) a ++ G.memoNodes (d + 1) p
  | d, .group gs => memoNodesL (d + 1) gs
  | d, .groupArr gs => memoNodesL (d + 1) gs
  | d, .or_ a b => G.memoNodes (d + 1) a ++ G.memoNodes (d + 1) b
  | d, .choice _ gs => memoNodesL (d + 1) gs
  | d, .orNot a => G.memoNodes (d + 1) a
  | d, .not_ a => G.memoNodes (d + 1) a
  | d, .andIs a b => G.memoNodes (d + 1) a ++ G.memoNodes (d + 1) b
  | d, .rewind a => G.memoNodes (d + 1) a
  | d, .map _ a => G.memoNodes (d + 1) a
  | d, .to _ a => G.memoNodes (d + 1) a
  | d, .ignored a => G.memoNodes (d + 1) a
  | d, .filter _ a => G.memoNodes (d + 1) a
  | d, .tryMap _ a => G.memoNodes (d + 1) a
  | d, .tryMapWith _ a => G.memoNodes (d + 1) a
  | d, .toSpan a => G.memoNodes (d + 1) a
  | d, .toSlice a => G.memoNodes (d + 1) a
  | d, .mapWithSpan a => G.memoNodes (d + 1) a
  | _, .mapWithState _ => []
  | _, .mapWithCtx _ => []
  | d, .validate _ a => G.memoNodes (d + 1) a
  | d, .collect _ it => It.memoNodes (d + 1) it
  | d, .collectExactly _ it => It.memoNodes (d + 1) it
  | d, .foldl _ a it => G.memoNodes (d + 1) a ++ It.memoNodes (d + 1) it
  | d, .foldr _ it b => It.memoNodes (d + 1) it ++ G.memoNodes (d + 1) b
  | d, .foldlWith a it => G.memoNodes (d + 1) a ++ It.memoNodes (d + 1) it
  | d, .foldrWith it b => It.memoNodes (d + 1) it ++ G.memoNodes (d + 1) b
  | d, .iterP (.repeated a 0 none) => G.memoNodes (d + 1) a
  | d, .iterP (.repeated a 0 (some _)) => G.memoNodes (d + 2) a
  | d, .iterP (.repeated a (_ + 1) _) => G.memoNodes (d + 2) a
  | d, .iterP (.separatedBy a sep _ _ _ _) => G.memoNodes (d + 2) a ++ G.memoNodes (d + 2) sep
  | d, .iterP (.intoIter a) => G.memoNodes (d + 1) a
  | _, .iterP (.enumerate _) => []
  | _, .iterP (.orNotIt _) => []
  | _, .iterP (.thenIt _ _) => []
  | _, .iterP (.mapIt _ _) => []
  | _, .iterP (.configureRep _ _) => []
  | _, .iterP (.tryConfigureRep _ _) => []
  | _, .recoverVia _ _ => []
  | _, .recoverSkipUntil _ _ _ _ => []
  | _, .recoverSkipRetry _ _ _ => []
  | d, .labelled _ _ a => G.memoNodes (d + 1) a
  | d, .mapErr _ a => G.memoNodes (d + 1) a
  | _, .withCtx _ _ => []
  | _, .ignoreWithCtx _ _ => []
  | _, .thenWithCtx _ _ => []
  | _, .mapCtx _ _ => []
  | _, .configureJust _ _ => []
  | d, .withState a => G.memoNodes (d + 1) a
  | d, .memoized id a => (id, a, d + 1) :: G.memoNodes (d + 1) a
  | _, .call _ => []
  | d, .boxed a => G.memoNodes (d + 1) a
def It.memoNodes : Nat → It → List MNode
  | d, .repeated a _ _ => G.memoNodes (d + 1) a
  | d, .separatedBy a sep _ _ _ _ => G.memoNodes (d + 1) a ++ G.memoNodes (d + 1) sep
  | d, .enumerate it => It.memoNodes (d + 1) it
  | d, .orNotIt a => G.memoNodes (d + 1) a
  | d, .intoIter a => G.memoNodes (d + 1) a
  | d, .thenIt a b => It.memoNodes (d + 1) a ++ It.memoNodes (d + 1) b
  | d, .mapIt _ it => It.memoNodes (d + 1) it
  | _, .configureRep _ _ => []
  | _, .tryConfigureRep _ _ => []
def memoNodesL : Nat → List G → List MNode
  | _, [] => []
  | d, g :: gs => G.memoNodes d g ++ memoNodesL d gs
end


theorem map_append_congr {α β : Type} {f : α → β} {l1 l2 l1' l2' : List α} (h1 : l1.map f = l1'.map f)
    (h2 : l2.map f = l2'.map f) : (l1 ++ l2).map f = (l1' ++ l2').map f := by
  rw [List.map_append, List.map_append, h1, h2]

mutual
theorem G.memoIds_shift : ∀ (g : G) (d d' : Nat), (G.memoNodes d g).map (·.1) = (G.memoNodes d' g).map (·.1)
  | .end_, _, _ | .empty, _, _ | .any, _, _ | .just _, _, _ | .oneOf _, _, _ | .noneOf _, _, _ | .select _, _, _
  | .custom _, _, _ | .todo, _, _ | .mapWithState _, _, _ | .mapWithCtx _, _, _ | .recoverVia _ _, _, _
  | .recoverSkipUntil _ _ _ _, _, _ | .recoverSkipRetry _ _ _, _, _ | .withCtx _ _, _, _ | .ignoreWithCtx _ _, _, _
  | .thenWithCtx _ _, _, _ | .mapCtx _ _, _, _ | .configureJust _ _, _, _ | .call _, _, _
  | .iterP (.enumerate _), _, _ | .iterP (.orNotIt _), _, _ | .iterP (.thenIt _ _), _, _ | .iterP (.mapIt _ _), _, _
  | .iterP (.configureRep _ _), _, _ | .iterP (.tryConfigureRep _ _), _, _ => rfl
  | .orNot a, d, d' | .not_ a, d, d' | .rewind a, d, d' | .map _ a, d, d' | .to _ a, d, d' | .ignored a, d, d'
  | .filter _ a, d, d' | .tryMap _ a, d, d' | .tryMapWith _ a, d, d' | .toSpan a, d, d' | .toSlice a, d, d'
  | .mapWithSpan a, d, d' | .validate _ a, d, d' | .labelled _ _ a, d, d' | .mapErr _ a, d, d' | .withState a, d, d'
  | .boxed a, d, d' | .iterP (.repeated a 0 none), d, d' | .iterP (.intoIter a), d, d' =>
    G.memoIds_shift a (d + 1) (d' + 1)
  | .iterP (.repeated a 0 (some _)), d, d' | .iterP (.repeated a (_ + 1) _), d, d' => G.memoIds_shift a (d + 2) (d' + 2)
  | .memoized id a, d, d' => congrArg (id :: ·) (G.memoIds_shift a (d + 1) (d' + 1))
  | .then_ a b, d, d' | .ignoreThen a b, d, d' | .thenIgnore a b, d, d' | .paddedBy a b, d, d' | .or_ a b, d, d'
  | .andIs a b, d, d' => map_append_congr (G.memoIds_shift a (d + 1) (d' + 1)) (G.memoIds_shift b (d + 1) (d' + 1))
  | .iterP (.separatedBy a b _ _ _ _), d, d' =>
    map_append_congr (G.memoIds_shift a (d + 2) (d' + 2)) (G.memoIds_shift b (d + 2) (d' + 2))
  | .delimitedBy a l r, d, d' =>
    map_append_congr (G.memoIds_shift a (d + 1) (d' + 1))
      (map_append_congr (G.memoIds_shift l (d + 1) (d' + 1)) (G.memoIds_shift r (d + 1) (d' + 1)))
  | .group gs, d, d' | .groupArr gs, d, d' | .choice _ gs, d, d' => memoIdsL_shift gs (d + 1) (d' + 1)
  | .collect _ it, d, d' | .collectExactly _ it, d, d' => It.memoIds_shift it (d + 1) (d' + 1)
  | .foldl _ a it, d, d' | .foldlWith a it, d, d' =>
    map_append_congr (G.memoIds_shift a (d + 1) (d' + 1)) (It.memoIds_shift it (d + 1) (d' + 1))
  | .foldr _ it a, d, d' | .foldrWith it a, d, d' =>
    map_append_congr (It.memoIds_shift it (d + 1) (d' + 1)) (G.memoIds_shift a (d + 1) (d' + 1))
theorem It.memoIds_shift : ∀ (it : It) (d d' : Nat), (It.memoNodes d it).map (·.1) = (It.memoNodes d' it).map (·.1)
  | .repeated a _ _, d, d' | .orNotIt a, d, d' | .intoIter a, d, d' => G.memoIds_shift a (d + 1) (d' + 1)
  | .separatedBy a sep _ _ _ _, d, d' =>
    map_append_congr (G.memoIds_shift a (d + 1) (d' + 1)) (G.memoIds_shift sep (d + 1) (d' + 1))
  | .enumerate it, d, d' | .mapIt _ it, d, d' => It.memoIds_shift it (d + 1) (d' + 1)
  | .thenIt a b, d, d' => map_append_congr (It.memoIds_shift a (d + 1) (d' + 1)) (It.memoIds_shift b (d + 1) (d' + 1))
  | .configureRep _ _, _, _ | .tryConfigureRep _ _, _, _ => rfl
theorem memoIdsL_shift : ∀ (gs : List G) (d d' : Nat), (memoNodesL d gs).map (·.1) = (memoNodesL d' gs).map (·.1)
  | [], _, _ => rfl
  | g :: gs, d, d' => map_append_congr (G.memoIds_shift g d d') (memoIdsL_shift gs d d')
end

def G.memoIds (g : G) : List Nat := (G.memoNodes 0 g).map (·.1)

theorem G.memoIds_eq (g : G) (d : Nat) : (G.memoNodes d g).map (·.1) = g.memoIds := G.memoIds_shift g d 0

namespace MF

/-- what is fixed during one simulation: the first environment (`memoOn` arbitrary; the second one is
    `env.withMemo false`), the flag `F` ("the two runs also agree on secondary errors, inspector, context" —
    forced when memoization is on), the table invariant's parameters and the nodes of the top grammar -/
structure Cx where
  env : Env
  ve : Bool
  F : Prop
  hF : env.memoOn = true → F
  B : Nat → G → Prop
  Rof : Nat → Runner
  nodes0 : List MNode

namespace Cx
variable (X : Cx)

abbrev env' : Env := X.env.withMemo false
abbrev ek : ErrKind := X.env.ek

/-- precondition on the table for running a grammar whose nodes are `l` (nothing when memoization is off) -/
def Pre (l : List MNode) (memo : Memo) : Prop :=
  X.env.memoOn = true → l.Sublist X.nodes0 ∧ TableInv X.B X.Rof X.env' memo ∧
    ∀ (p : Nat) (x : MNode), x ∈ l → memoFind memo (p, x.1) ≠ some none

def Post (memo0 memo : Memo) : Prop :=
  X.env.memoOn = true → TableOK X.B X.Rof X.env' memo0 memo

variable {X}

theorem Pre.app_l {l1 l2 memo} (h : X.Pre (l1 ++ l2) memo) : X.Pre l1 memo := fun hon =>
  ⟨(List.sublist_append_left l1 l2).trans (h hon).1, (h hon).2.1, fun p x hx =>
    (h hon).2.2 p x (List.mem_append_left _ hx)⟩

theorem Pre.app_r {l1 l2 memo} (h : X.Pre (l1 ++ l2) memo) : X.Pre l2 memo := fun hon =>
  ⟨(List.sublist_append_right l1 l2).trans (h hon).1, (h hon).2.1, fun p x hx =>
    (h hon).2.2 p x (List.mem_append_right _ hx)⟩

theorem Pre.tail {x l memo} (h : X.Pre (x :: l) memo) : X.Pre l memo :=
  Pre.app_r (l1 := [x]) h

theorem Pre.step {l memo0 memo} (h : X.Pre l memo0) (hp : X.Post memo0 memo) : X.Pre l memo := fun hon =>
  ⟨(h hon).1, (hp hon).1, fun p x hx hf => (h hon).2.2 p x hx ((hp hon).2 _ hf)⟩

theorem Pre.refl {l memo} (h : X.Pre l memo) : X.Post memo memo :=
  fun hon => ⟨(h hon).2.1, fun _ hk => hk⟩

theorem Post.trans {m0 m1 m2} (h1 : X.Post m0 m1) (h2 : X.Post m1 m2) : X.Post m0 m2 :=
  fun hon => ⟨(h2 hon).1, fun k hk => (h1 hon).2 k ((h2 hon).2 k hk)⟩

end Cx

section envLemmas
variable (env : Env) (b : Bool)
@[simp] theorem Env.withMemo_mkSpan : (env.withMemo b).mkSpan = env.mkSpan := rfl
@[simp] theorem Env.withMemo_off : (env.withMemo b).off = env.off := rfl
@[simp] theorem Env.withMemo_toks : (env.withMemo b).toks = env.toks := rfl
@[simp] theorem St.next_withMemo : St.next (env.withMemo b) = St.next env := rfl
@[simp] theorem St.peek_withMemo : St.peek (env.withMemo b) = St.peek env := rfl
@[simp] theorem St.addAlt_withMemo : St.addAlt (env.withMemo b) = St.addAlt env := rfl
@[simp] theorem St.addAltErr_withMemo : St.addAltErr (env.withMemo b) = St.addAltErr env := rfl
@[simp] theorem St.readdAlt_withMemo : St.readdAlt (env.withMemo b) = St.readdAlt env := rfl
@[simp] theorem tokenPrim_withMemo : tokenPrim (env.withMemo b) = tokenPrim env := rfl
@[simp] theorem runCustom_withMemo : runCustom (env.withMemo b) = runCustom env := rfl
theorem Env.withMemo_self (h : env.memoOn = false) : env.withMemo false = env := by
  cases env; simp_all [Env.withMemo]
end envLemmas

@[simp] theorem addAlt_memo (env : Env) (st : St) (e f s) : (st.addAlt env e f s).memo = st.memo := by
  unfold St.addAlt; split <;> rfl
@[simp] theorem next_memo (env : Env) (st : St) : (st.next env).2.memo = st.memo := by
  unfold St.next; split <;> rfl
@[simp] theorem next_pos_insp (env : Env) (st : St) :
    (st.next env).2.pos = st.pos + (if (st.next env).1.isSome then 1 else 0) := by
  unfold St.next; split <;> simp [*]

theorem OptLoc.isSome_of_equiv {a b : Option Loc} (h : OptLoc.equiv a b) (hb : b.isSome = true) : a.isSome = true := by
  cases a <;> cases b <;> simp_all [OptLoc.equiv]

theorem alt_merge {ek : ErrKind} {o sa ta sa' ta' x x' : Option Loc} (h : OptLoc.equiv ta (oplus ek o sa))
    (ht : OptLoc.equiv ta' (oplus ek ta x)) (hs : OptLoc.equiv sa' (oplus ek sa x')) (hx : OptLoc.equiv x x') :
    OptLoc.equiv ta' (oplus ek o sa') := by
  refine OptLoc.equiv_trans ht ?_
  refine OptLoc.equiv_trans (oplus_congr h hx) ?_
  refine OptLoc.equiv_trans (OptLoc.equiv_symm (oplus_assoc _ _ _ _)) ?_
  exact oplus_congr (OptLoc.equiv_refl _) (OptLoc.equiv_symm hs)

section rel
variable (X : Cx)

/-- first-run state `s` vs second-run state `t` (`MRel` when `F`) -/
structure WRel (o : Option Loc) (s t : St) : Prop where
  pos : s.pos = t.pos
  alt : OptLoc.equiv t.alt (oplus X.ek o s.alt)
  full : X.F → s.errs = t.errs ∧ s.insp = t.insp ∧ s.ctx = t.ctx

/-- related states inside the frame `(base, c)` of a caller, table predicate `Q`;
    `stab`: in the `validate`-free class (`ve`) the secondary errors never change -/
structure WOk (Q : Memo → Prop) (o : Option Loc) (base : List Loc) (c : Val) (s t : St) : Prop
    extends WRel X o s t where
  frame : X.F → base <+: s.errs ∧ s.ctx = c
  stab : X.F → X.ve = true → s.errs = base
  tab : Q s.memo

/-- related failures: only the frame (`FRel` when `F`) -/
structure WFail (Q : Memo → Prop) (o : Option Loc) (base : List Loc) (c : Val) (s t : St) : Prop where
  some : s.alt.isSome = true
  alt : OptLoc.equiv t.alt (oplus X.ek o s.alt)
  full : X.F → base <+: s.errs ∧ base <+: t.errs ∧ s.ctx = c ∧ t.ctx = c
  stab : X.F → X.ve = true → s.errs = base ∧ t.errs = base
  tab : Q s.memo

inductive WOut (Q : Memo → Prop) (o : Option Loc) (base : List Loc) (c : Val) : Out → Out → Prop
  | ok (v : Val) {s t : St} : WOk X Q o base c s t → WOut Q o base c (.ok v s) (.ok v t)
  | fail {s t : St} : WFail X Q o base c s t → WOut Q o base c (.fail s) (.fail t)
  | panic (w : Nat) : WOut Q o base c (.panic w) (.panic w)
  | oof : WOut Q o base c .oof .oof

inductive WIt (Q : Memo → Prop) (o : Option Loc) (base : List Loc) (c : Val) : ItOut → ItOut → Prop
  | some (v : Val) (ist : ItSt) {s t : St} : WOk X Q o base c s t → WIt Q o base c (.some v s ist) (.some v t ist)
  | done (ist : ItSt) {s t : St} : WOk X Q o base c s t → WIt Q o base c (.done s ist) (.done t ist)
  | fail {s t : St} : WFail X Q o base c s t → WIt Q o base c (.fail s) (.fail t)
  | panic (w : Nat) : WIt Q o base c (.panic w) (.panic w)
  | oof : WIt Q o base c .oof .oof

inductive WMk (Q : Memo → Prop) (o : Option Loc) (base : List Loc) (c : Val) : MkOut → MkOut → Prop
  | ok (ist : ItSt) {s t : St} : WOk X Q o base c s t → WMk Q o base c (.ok ist s) (.ok ist t)
  | fail {s t : St} : WFail X Q o base c s t → WMk Q o base c (.fail s) (.fail t)
  | panic (w : Nat) : WMk Q o base c (.panic w) (.panic w)
  | oof : WMk Q o base c .oof .oof

end rel

section relLemmas
variable {X : Cx} {Q Q1 : Memo → Prop} {o : Option Loc} {base b1 : List Loc} {c c1 : Val} {s t s' t' : St}

theorem WRel.init (h : WRel X o s t) (hq : Q s.memo) : WOk X Q o s.errs s.ctx s t :=
  { h with frame := fun _ => ⟨List.prefix_refl _, rfl⟩, stab := fun _ _ => rfl, tab := hq }

/-- what links the frame of a sub-run started in a state with secondary errors `b1`, context `c1` to the caller's -/
structure Link (X : Cx) (base b1 : List Loc) (c c1 : Val) : Prop where
  frame : X.F → base <+: b1 ∧ c1 = c
  stab : X.F → X.ve = true → b1 = base

theorem WOk.link (h : WOk X Q o base c s t) : Link X base s.errs c s.ctx := ⟨h.frame, h.stab⟩

theorem WOk.rebase (h : WOk X Q1 o b1 c1 s t) (hb : Link X base b1 c c1) (hq : ∀ m, Q1 m → Q m) :
    WOk X Q o base c s t :=
  { h.toWRel with
    frame := fun hF => ⟨(hb.frame hF).1.trans (h.frame hF).1, (h.frame hF).2.trans (hb.frame hF).2⟩
    stab := fun hF hE => (h.stab hF hE).trans (hb.stab hF hE)
    tab := hq _ h.tab }

theorem WFail.rebase (h : WFail X Q1 o b1 c1 s t) (hb : Link X base b1 c c1) (hq : ∀ m, Q1 m → Q m) :
    WFail X Q o base c s t :=
  ⟨h.some, h.alt, fun hF => ⟨(hb.frame hF).1.trans (h.full hF).1, (hb.frame hF).1.trans (h.full hF).2.1,
    (h.full hF).2.2.1.trans (hb.frame hF).2, (h.full hF).2.2.2.trans (hb.frame hF).2⟩,
    fun hF hE => ⟨(h.stab hF hE).1.trans (hb.stab hF hE), (h.stab hF hE).2.trans (hb.stab hF hE)⟩, hq _ h.tab⟩

theorem WOut.rebase {x y : Out} (h : WOut X Q1 o b1 c1 x y) (hb : Link X base b1 c c1)
    (hq : ∀ m, Q1 m → Q m) : WOut X Q o base c x y := by
  cases h with
  | ok v h => exact .ok v (h.rebase hb hq)
  | fail h => exact .fail (h.rebase hb hq)
  | panic _ | oof => constructor

theorem WIt.rebase {x y : ItOut} (h : WIt X Q1 o b1 c1 x y) (hb : Link X base b1 c c1)
    (hq : ∀ m, Q1 m → Q m) : WIt X Q o base c x y := by
  cases h with
  | some v ist h => exact .some v ist (h.rebase hb hq)
  | done ist h => exact .done ist (h.rebase hb hq)
  | fail h => exact .fail (h.rebase hb hq)
  | panic _ | oof => constructor

theorem WMk.rebase {x y : MkOut} (h : WMk X Q1 o b1 c1 x y) (hb : Link X base b1 c c1)
    (hq : ∀ m, Q1 m → Q m) : WMk X Q o base c x y := by
  cases h with
  | ok ist h => exact .ok ist (h.rebase hb hq)
  | fail h => exact .fail (h.rebase hb hq)
  | panic _ | oof => constructor

theorem WFail.rewind (hs : WRel X o s t) (h : WFail X Q o s.errs s.ctx s' t') :
    WOk X Q o s.errs s.ctx (s'.rewind s.save) (t'.rewind t.save) where
  pos := hs.pos
  alt := h.alt
  full := fun hF => by
    obtain ⟨h1, h2, h3, h4⟩ := h.full hF
    obtain ⟨e1, e2, e3⟩ := hs.full hF
    refine ⟨?_, e2, h3.trans h4.symm⟩
    show s'.errs.take s.errs.length = t'.errs.take t.errs.length
    rw [take_of_prefix h1, ← e1, take_of_prefix h2]
  frame := fun hF => by
    obtain ⟨h1, h2, h3, h4⟩ := h.full hF
    refine ⟨?_, h3⟩
    show s.errs <+: s'.errs.take s.errs.length
    rw [take_of_prefix h1]; exact List.prefix_refl _
  stab := fun hF _ => by
    show s'.errs.take s.errs.length = s.errs
    exact take_of_prefix (h.full hF).1
  tab := h.tab

theorem WOk.toFail (h : WOk X Q o base c s t) (hs : s.alt.isSome = true) : WFail X Q o base c s t :=
  ⟨hs, h.alt, fun hF => ⟨(h.frame hF).1, (h.full hF).1 ▸ (h.frame hF).1, (h.frame hF).2,
    (h.full hF).2.2 ▸ (h.frame hF).2⟩, fun hF hE => ⟨h.stab hF hE, (h.full hF).1 ▸ h.stab hF hE⟩, h.tab⟩

/-- The relation looks at secondary errors, context and table only through their values: it survives every change
    of the two states that keeps these, moves the cursors and the inspectors together and relates the new pending
    errors (for a new offset `o'`).  All state operations below except truncating or extending the secondary errors
    are instances, by `rfl` on the first two premises. -/
theorem WOk.update {o' : Option Loc} (h : WOk X Q o base c s t)
    (hs : (s'.errs, s'.ctx, s'.memo) = (s.errs, s.ctx, s.memo)) (ht : (t'.errs, t'.ctx) = (t.errs, t.ctx))
    (hp : s'.pos = t'.pos) (hi : X.F → s'.insp = t'.insp) (ha : OptLoc.equiv t'.alt (oplus X.ek o' s'.alt)) :
    WOk X Q o' base c s' t' := by
  obtain ⟨⟨h1, h2, h3⟩, h4, h5⟩ := Prod.mk.inj hs |>.imp_right Prod.mk.inj, Prod.mk.inj ht
  exact ⟨⟨hp, ha, fun hF => ⟨h1 ▸ h4 ▸ (h.full hF).1, hi hF, h2 ▸ h5 ▸ (h.full hF).2.2⟩⟩, fun hF => h1 ▸ h2 ▸ h.frame hF,
    fun hF hE => h1 ▸ h.stab hF hE, h3 ▸ h.tab⟩

theorem WFail.update {o' : Option Loc} (h : WFail X Q o base c s t)
    (hs : (s'.errs, s'.ctx, s'.memo) = (s.errs, s.ctx, s.memo)) (ht : (t'.errs, t'.ctx) = (t.errs, t.ctx))
    (hsome : s'.alt.isSome = true) (ha : OptLoc.equiv t'.alt (oplus X.ek o' s'.alt)) : WFail X Q o' base c s' t' := by
  obtain ⟨⟨h1, h2, h3⟩, h4, h5⟩ := Prod.mk.inj hs |>.imp_right Prod.mk.inj, Prod.mk.inj ht
  exact ⟨hsome, ha, fun hF => h1 ▸ h2 ▸ h4 ▸ h5 ▸ h.full hF, fun hF hE => h1 ▸ h4 ▸ h.stab hF hE, h3 ▸ h.tab⟩

theorem WOk.rewindInput {sc tc : St} (h : WOk X Q o base c s t) (hp : sc.pos = tc.pos)
    (hi : X.F → sc.insp = tc.insp) : WOk X Q o base c (s.rewindInput sc.save) (t.rewindInput tc.save) :=
  h.update rfl rfl hp hi h.alt

theorem WOk.setAltLog {x y : Option Loc} {o' : Option Loc} {lg lg' : List Loc} (h : WOk X Q o base c s t)
    (hxy : OptLoc.equiv y (oplus X.ek o' x)) :
    WOk X Q o' base c { s with alt := x, log := lg } { t with alt := y, log := lg' } :=
  h.update rfl rfl h.pos (fun hF => (h.full hF).2.1) hxy

theorem WOk.altNone (h : WOk X Q o base c s t) : WOk X Q none base c { s with alt := none } { t with alt := none } :=
  h.setAltLog (o' := none) trivial

theorem WOk.setInsp (h : WOk X Q o base c s t) {i i' : List Nat} (hi : X.F → i = i') :
    WOk X Q o base c { s with insp := i } { t with insp := i' } :=
  h.update rfl rfl h.pos hi h.alt

theorem WFail.setInsp (h : WFail X Q o base c s t) (i i' : List Nat) :
    WFail X Q o base c { s with insp := i } { t with insp := i' } :=
  h.update rfl rfl h.some h.alt

theorem WOk.readd {s0 t0 : St} (h : WOk X Q none base c s t) (h0 : OptLoc.equiv t0.alt (oplus X.ek o s0.alt))
    {x y : Option Loc} (hxy : OptLoc.equiv y x) :
    WOk X Q o base c (St.readdAlt X.env { s with alt := s0.alt } x) (St.readdAlt X.env { t with alt := t0.alt } y) := by
  rw [readdAlt_eq, readdAlt_eq]
  exact h.update rfl rfl h.pos (fun hF => (h.full hF).2.1)
    (alt_merge h0 (OptLoc.equiv_refl _) (OptLoc.equiv_refl _) hxy)

theorem WFail.readd {s0 t0 : St} (h : WFail X Q none base c s t) (h0 : OptLoc.equiv t0.alt (oplus X.ek o s0.alt))
    {x y : Option Loc} (hxy : OptLoc.equiv y x) (hx : x.isSome = true) :
    WFail X Q o base c (St.readdAlt X.env { s with alt := s0.alt } x) (St.readdAlt X.env { t with alt := t0.alt } y) := by
  rw [readdAlt_eq, readdAlt_eq]
  exact h.update rfl rfl (oplus_isSome_right _ _ hx) (alt_merge h0 (OptLoc.equiv_refl _) (OptLoc.equiv_refl _) hxy)

theorem WOk.reshelter {s0 t0 : St} (h : WOk X Q none base c s t) (h0 : OptLoc.equiv t0.alt (oplus X.ek o s0.alt)) :
    WOk X Q o base c (St.readdAlt X.env { s with alt := s0.alt } s.alt)
      (St.readdAlt X.env { t with alt := t0.alt } t.alt) :=
  h.readd h0 (oplus_none_left X.ek s.alt ▸ h.alt)

theorem WFail.reshelter {s0 t0 : St} (h : WFail X Q none base c s t) (h0 : OptLoc.equiv t0.alt (oplus X.ek o s0.alt)) :
    WFail X Q o base c (St.readdAlt X.env { s with alt := s0.alt } s.alt)
      (St.readdAlt X.env { t with alt := t0.alt } t.alt) :=
  h.readd h0 (oplus_none_left X.ek s.alt ▸ h.alt) h.some

theorem WOk.addAlt (h : WOk X Q o base c s t) (exp : List Pat) (f : Option Nat) (sp : Nat × Nat) :
    WFail X Q o base c (s.addAlt X.env exp f sp) (t.addAlt X.env exp f sp) := by
  obtain ⟨a1, a2, a3⟩ := addAlt_contrib X.env s exp f sp
  obtain ⟨b1', b2, b3⟩ := addAlt_contrib X.env t exp f sp
  refine (h.update ?_ ?_ ?_ (fun hF => ?_) (alt_merge h.alt b3 a3 (h.pos ▸ OptLoc.equiv_refl _))).toFail
    (addAlt_alt_isSome ..)
  · rw [a1, a2, addAlt_memo]
  · rw [b1', b2]
  · rw [addAlt_pos, addAlt_pos, h.pos]
  · rw [addAlt_insp, addAlt_insp, (h.full hF).2.1]

theorem WOk.addAltErr (h : WOk X Q o base c s t) (p : Nat) (e : Err) :
    WFail X Q o base c (s.addAltErr X.env p e) (t.addAltErr X.env p e) := by
  have ha : OptLoc.equiv (oplus X.ek t.alt (some ⟨p, e⟩)) (oplus X.ek o (oplus X.ek s.alt (some ⟨p, e⟩))) :=
    alt_merge h.alt (OptLoc.equiv_refl _) (OptLoc.equiv_refl _) (OptLoc.equiv_refl _)
  rw [addAltErr_eq, addAltErr_eq]
  exact WOk.toFail (h.update rfl rfl h.pos (fun hF => (h.full hF).2.1) ha)
    (oplus_isSome_right X.ek s.alt (y := some ⟨p, e⟩) rfl)

theorem WOk.rewindTo {Q' : Memo → Prop} {o' : Option Loc} {sc tc : St} (h : WOk X Q o base c s t)
    (hc : WOk X Q' o' base c sc tc) : WOk X Q o base c (s.rewind sc.save) (t.rewind tc.save) where
  pos := hc.pos
  alt := h.alt
  full := fun hF => by
    obtain ⟨e1, e2, e3⟩ := hc.full hF
    obtain ⟨f1, f2, f3⟩ := h.full hF
    refine ⟨?_, e2, f3⟩
    show s.errs.take sc.errs.length = t.errs.take tc.errs.length
    rw [← f1, ← e1]
  frame := fun hF => by
    obtain ⟨h1, h2⟩ := h.frame hF
    refine ⟨?_, h2⟩
    show base <+: s.errs.take sc.errs.length
    exact List.prefix_take_iff.mpr ⟨h1, (hc.frame hF).1.length_le⟩
  stab := fun hF hE => by
    show s.errs.take sc.errs.length = base
    rw [h.stab hF hE, hc.stab hF hE, List.take_length]
  tab := h.tab

theorem WOk.appendErrs (h : WOk X Q o base c s t) (hv : X.ve = false) (l : List Loc) :
    WOk X Q o base c { s with errs := s.errs ++ l } { t with errs := t.errs ++ l } where
  pos := h.pos
  alt := h.alt
  full := fun hF => ⟨by rw [(h.full hF).1], (h.full hF).2⟩
  frame := fun hF => ⟨(h.frame hF).1.trans (List.prefix_append _ _), (h.frame hF).2⟩
  stab := fun _ hE => by rw [hv] at hE; cases hE
  tab := h.tab

theorem WOk.next (h : WOk X Q o base c s t) :
    (t.next X.env').1 = (s.next X.env).1 ∧ WOk X Q o base c (s.next X.env).2 (t.next X.env').2 := by
  show (t.next X.env).1 = _ ∧ WOk X Q o base c _ (t.next X.env).2
  simp only [St.next, ← h.pos]
  cases X.env.toks[s.pos]? with
  | none => exact ⟨rfl, h⟩
  | some x =>
    refine ⟨rfl, ⟨⟨rfl, h.alt, fun hF => ?_⟩, h.frame, h.stab, h.tab⟩⟩
    obtain ⟨f1, f2, f3⟩ := h.full hF
    exact ⟨f1, congrArg (· ++ [x]) f2, f3⟩

theorem WOk.peek (h : WOk X Q o base c s t) : t.peek X.env' = s.peek X.env :=
  congrArg (X.env.toks[·]?) h.pos.symm

theorem WOk.save_pos (h : WOk X Q o base c s t) : t.save.pos = s.save.pos := h.pos.symm

theorem WOk.mkSpan (h : WOk X Q o base c s t) (p : Nat) : X.env'.mkSpan p t.pos = X.env.mkSpan p s.pos :=
  congrArg (X.env.mkSpan p) h.pos.symm

theorem WOut.ite {p : Prop} [Decidable p] {x y x' y' : Out} (h1 : WOut X Q o base c x y)
    (h2 : WOut X Q o base c x' y') : WOut X Q o base c (if p then x else x') (if p then y else y') := by
  split <;> assumption

theorem WIt.ite {p : Prop} [Decidable p] {x y x' y' : ItOut} (h1 : WIt X Q o base c x y)
    (h2 : WIt X Q o base c x' y') : WIt X Q o base c (if p then x else x') (if p then y else y') := by
  split <;> assumption

/-! ### a `match` on related outcomes

Both runs branch on the outcome of a sub-run by the same `match`, with its alternatives in the order of the
constructors: the two results are related (by `T`: `WOut`, `WIt` or `WMk` with its parameters) as soon as the
alternatives are, pairwise.  `bind`: the case `T = WOut`, where `panic` and `oof` relate themselves. -/

theorem WMk.elim {x y : MkOut} {α : Type} {T : α → α → Prop} {fok fok' : ItSt → St → α} {ffail ffail' : St → α}
    {fpanic : Nat → α} {foof : α} (h1 : ∀ i s1 t1, WOk X Q o base c s1 t1 → T (fok i s1) (fok' i t1))
    (h2 : ∀ s1 t1, WFail X Q o base c s1 t1 → T (ffail s1) (ffail' t1)) (h3 : ∀ w, T (fpanic w) (fpanic w))
    (h4 : T foof foof) : WMk X Q o base c x y →
    T (match x with | .ok i s1 => fok i s1 | .fail s1 => ffail s1 | .panic w => fpanic w | .oof => foof)
      (match y with | .ok i t1 => fok' i t1 | .fail t1 => ffail' t1 | .panic w => fpanic w | .oof => foof) := by
  intro h
  cases h with
  | ok i h => exact h1 _ _ _ h
  | fail h => exact h2 _ _ h
  | panic w => exact h3 w
  | oof => exact h4

theorem WMk.bind {Q' : Memo → Prop} {o' : Option Loc} {b' : List Loc} {c' : Val} {x y : MkOut}
    {fok fok' : ItSt → St → Out} {ffail ffail' : St → Out}
    (h1 : ∀ i s1 t1, WOk X Q o base c s1 t1 → WOut X Q' o' b' c' (fok i s1) (fok' i t1))
    (h2 : ∀ s1 t1, WFail X Q o base c s1 t1 → WOut X Q' o' b' c' (ffail s1) (ffail' t1)) : WMk X Q o base c x y →
    WOut X Q' o' b' c' (match x with | .ok i s1 => fok i s1 | .fail s1 => ffail s1 | .panic w => .panic w | .oof => .oof)
      (match y with | .ok i t1 => fok' i t1 | .fail t1 => ffail' t1 | .panic w => .panic w | .oof => .oof) :=
  WMk.elim h1 h2 .panic .oof

theorem WIt.elim {x y : ItOut} {α : Type} {T : α → α → Prop} {fsome fsome' : Val → St → ItSt → α}
    {fdone fdone' : St → ItSt → α} {ffail ffail' : St → α} {fpanic : Nat → α} {foof : α}
    (h1 : ∀ v i s1 t1, WOk X Q o base c s1 t1 → T (fsome v s1 i) (fsome' v t1 i))
    (h2 : ∀ i s1 t1, WOk X Q o base c s1 t1 → T (fdone s1 i) (fdone' t1 i))
    (h3 : ∀ s1 t1, WFail X Q o base c s1 t1 → T (ffail s1) (ffail' t1)) (h4 : ∀ w, T (fpanic w) (fpanic w))
    (h5 : T foof foof) : WIt X Q o base c x y →
    T (match x with
        | .some v s1 i => fsome v s1 i | .done s1 i => fdone s1 i | .fail s1 => ffail s1 | .panic w => fpanic w
        | .oof => foof)
      (match y with
        | .some v t1 i => fsome' v t1 i | .done t1 i => fdone' t1 i | .fail t1 => ffail' t1 | .panic w => fpanic w
        | .oof => foof) := by
  intro h
  cases h with
  | some v i h => exact h1 _ _ _ _ h
  | done i h => exact h2 _ _ _ h
  | fail h => exact h3 _ _ h
  | panic w => exact h4 w
  | oof => exact h5

theorem WIt.bind {Q' : Memo → Prop} {o' : Option Loc} {b' : List Loc} {c' : Val} {x y : ItOut}
    {fsome fsome' : Val → St → ItSt → Out} {fdone fdone' : St → ItSt → Out} {ffail ffail' : St → Out}
    (h1 : ∀ v i s1 t1, WOk X Q o base c s1 t1 → WOut X Q' o' b' c' (fsome v s1 i) (fsome' v t1 i))
    (h2 : ∀ i s1 t1, WOk X Q o base c s1 t1 → WOut X Q' o' b' c' (fdone s1 i) (fdone' t1 i))
    (h3 : ∀ s1 t1, WFail X Q o base c s1 t1 → WOut X Q' o' b' c' (ffail s1) (ffail' t1)) : WIt X Q o base c x y →
    WOut X Q' o' b' c'
      (match x with
        | .some v s1 i => fsome v s1 i | .done s1 i => fdone s1 i | .fail s1 => ffail s1 | .panic w => .panic w
        | .oof => .oof)
      (match y with
        | .some v t1 i => fsome' v t1 i | .done t1 i => fdone' t1 i | .fail t1 => ffail' t1 | .panic w => .panic w
        | .oof => .oof) :=
  WIt.elim h1 h2 h3 .panic .oof

theorem WIt.relabel {x y : ItOut} (f : Val → Val) (g : ItSt → ItSt) : WIt X Q o base c x y →
    WIt X Q o base c
      (match x with
        | .some v s1 i => .some (f v) s1 (g i) | .done s1 i => .done s1 (g i) | .fail s1 => .fail s1
        | .panic w => .panic w | .oof => .oof)
      (match y with
        | .some v t1 i => .some (f v) t1 (g i) | .done t1 i => .done t1 (g i) | .fail t1 => .fail t1
        | .panic w => .panic w | .oof => .oof) :=
  WIt.elim (fun _ _ _ _ h => .some _ _ h) (fun _ _ _ h => .done _ h) (fun _ _ h => .fail h) .panic .oof

end relLemmas

/-- the outcomes of a sub-run from the related pair `(s, t)`: as `WOut`, and a failure also rewound to the
    checkpoint taken at the call (the frame it was measured in is that of `(s, t)`) -/
inductive WRun (X : Cx) (Q : Memo → Prop) (o : Option Loc) (base : List Loc) (c : Val) (s t : St) : Out → Out → Prop
  | ok (v : Val) {s1 t1 : St} : WOk X Q o base c s1 t1 → WRun X Q o base c s t (.ok v s1) (.ok v t1)
  | fail {s1 t1 : St} : WFail X Q o base c s1 t1 → WOk X Q o base c (s1.rewind s.save) (t1.rewind t.save) →
      WRun X Q o base c s t (.fail s1) (.fail t1)
  | panic (w : Nat) : WRun X Q o base c s t (.panic w) (.panic w)
  | oof : WRun X Q o base c s t .oof .oof

section run
variable {X : Cx} {Q Q' : Memo → Prop} {o o' : Option Loc} {base b' : List Loc} {c c' : Val} {s t : St} {x y : Out}

theorem WRun.elim {α : Type} {T : α → α → Prop} {fok fok' : Val → St → α} {ffail ffail' : St → α} {fpanic : Nat → α}
    {foof : α} (h1 : ∀ v s1 t1, WOk X Q o base c s1 t1 → T (fok v s1) (fok' v t1))
    (h2 : ∀ s1 t1, WFail X Q o base c s1 t1 → WOk X Q o base c (s1.rewind s.save) (t1.rewind t.save) →
      T (ffail s1) (ffail' t1))
    (h3 : ∀ w, T (fpanic w) (fpanic w)) (h4 : T foof foof) : WRun X Q o base c s t x y →
    T (match x with | .ok v s1 => fok v s1 | .fail s1 => ffail s1 | .panic w => fpanic w | .oof => foof)
      (match y with | .ok v t1 => fok' v t1 | .fail t1 => ffail' t1 | .panic w => fpanic w | .oof => foof) := by
  intro h
  cases h with
  | ok v h => exact h1 _ _ _ h
  | fail h h' => exact h2 _ _ h h'
  | panic w => exact h3 w
  | oof => exact h4

theorem WRun.bind {fok fok' : Val → St → Out} {ffail ffail' : St → Out}
    (h1 : ∀ v s1 t1, WOk X Q o base c s1 t1 → WOut X Q' o' b' c' (fok v s1) (fok' v t1))
    (h2 : ∀ s1 t1, WFail X Q o base c s1 t1 → WOk X Q o base c (s1.rewind s.save) (t1.rewind t.save) →
      WOut X Q' o' b' c' (ffail s1) (ffail' t1)) : WRun X Q o base c s t x y →
    WOut X Q' o' b' c' (match x with | .ok v s1 => fok v s1 | .fail s1 => ffail s1 | .panic w => .panic w | .oof => .oof)
      (match y with | .ok v t1 => fok' v t1 | .fail t1 => ffail' t1 | .panic w => .panic w | .oof => .oof) :=
  WRun.elim h1 h2 .panic .oof

theorem WRun.andThen {k k' : Val → St → Out} (h : WRun X Q o base c s t x y)
    (hk : ∀ v s1 t1, WOk X Q o base c s1 t1 → WOut X Q o base c (k v s1) (k' v t1)) :
    WOut X Q o base c (x.andThen k) (y.andThen k') :=
  h.bind hk fun _ _ hf _ => .fail hf

end run

/-! open recursion; `d` = depth of the grammar being run -/

section sim
variable (X : Cx)

def SimR (d : Nat) (R R' : Runner) : Prop :=
  ∀ g : G, g.memoSafe X.ve = true → ∀ (m : Mode) (o : Option Loc) (s t : St), WRel X o s t →
    X.Pre (g.memoNodes d) s.memo → WOut X (X.Post s.memo) o s.errs s.ctx (R X.env m g s) (R' X.env' m g t)

def SimN (d : Nat) (N N' : NextRunner) : Prop :=
  ∀ it : It, it.memoSafe X.ve = true → ∀ (m : Mode) (o : Option Loc) (s t : St) (ist : ItSt), WRel X o s t →
    X.Pre (it.memoNodes d) s.memo →
    WIt X (X.Post s.memo) o s.errs s.ctx (N X.env m it s ist) (N' X.env' m it t ist)

def SimK (d : Nat) (K K' : MkRunner) : Prop :=
  ∀ it : It, it.memoSafe X.ve = true → ∀ (m : Mode) (o : Option Loc) (s t : St), WRel X o s t →
    X.Pre (it.memoNodes d) s.memo → WMk X (X.Post s.memo) o s.errs s.ctx (K X.env m it s) (K' X.env' m it t)

end sim

section calls
variable {X : Cx} {d : Nat} {R R' : Runner} {N N' : NextRunner} {K K' : MkRunner}
variable {memo0 : Memo} {o : Option Loc} {base : List Loc} {c : Val} {s t : St}

theorem SimR.at (hR : SimR X d R R') {g : G} (hg : g.memoSafe X.ve = true) (hpre : X.Pre (g.memoNodes d) memo0)
    (hok : WOk X (X.Post memo0) o base c s t) (m : Mode) :
    WRun X (X.Post memo0) o base c s t (R X.env m g s) (R' X.env' m g t) := by
  have hq : ∀ mm, X.Post s.memo mm → X.Post memo0 mm := fun _ h' => Cx.Post.trans hok.tab h'
  have h := hR g hg m o s t hok.toWRel (hpre.step hok.tab)
  generalize R X.env m g s = x, R' X.env' m g t = y at h
  cases h with
  | ok v h => exact .ok v (h.rebase hok.link hq)
  | fail h => exact .fail (h.rebase hok.link hq) ((WFail.rewind hok.toWRel h).rebase hok.link hq)
  | panic _ | oof => constructor

theorem SimN.at (hN : SimN X d N N') {it : It} (hg : it.memoSafe X.ve = true) (hpre : X.Pre (it.memoNodes d) memo0)
    (hok : WOk X (X.Post memo0) o base c s t) (m : Mode) (ist : ItSt) :
    WIt X (X.Post memo0) o base c (N X.env m it s ist) (N' X.env' m it t ist) :=
  (hN it hg m o s t ist hok.toWRel (hpre.step hok.tab)).rebase hok.link fun _ h' => Cx.Post.trans hok.tab h'

theorem SimK.at (hK : SimK X d K K') {it : It} (hg : it.memoSafe X.ve = true) (hpre : X.Pre (it.memoNodes d) memo0)
    (hok : WOk X (X.Post memo0) o base c s t) (m : Mode) :
    WMk X (X.Post memo0) o base c (K X.env m it s) (K' X.env' m it t) :=
  (hK it hg m o s t hok.toWRel (hpre.step hok.tab)).rebase hok.link fun _ h' => Cx.Post.trans hok.tab h'

end calls

section prims
variable {X : Cx} {Q : Memo → Prop} {o : Option Loc} {base : List Loc} {c : Val} {s t : St}

theorem tokenPrim_sim (h : WOk X Q o base c s t) (m : Mode) (acc : Nat → Option Val) (exp : List Pat) :
    WOut X Q o base c (tokenPrim X.env m s acc exp) (tokenPrim X.env' m t acc exp) := by
  obtain ⟨hn1, hn2⟩ := h.next
  simp only [tokenPrim, hn1, save_pos, ← h.pos, ← hn2.pos]
  cases ((St.next X.env s).1.bind acc) with
  | some v => exact .ok _ hn2
  | none => exact .fail ((hn2.rewindTo h).addAlt _ _ _)

theorem justRun_sim : ∀ (ts : List Nat) (s t : St), WOk X Q o base c s t →
    (∃ a b, justRun X.env ts s = .inl a ∧ justRun X.env' ts t = .inl b ∧ WFail X Q o base c a b) ∨
    (∃ a b, justRun X.env ts s = .inr a ∧ justRun X.env' ts t = .inr b ∧ WOk X Q o base c a b)
  | [], _, _, h => .inr ⟨_, _, rfl, rfl, h⟩
  | e :: es, s, t, h => by
    obtain ⟨hn1, hn2⟩ := h.next
    simp only [justRun, hn1, save_pos, ← h.pos, ← hn2.pos]
    split
    · exact justRun_sim es _ _ hn2
    · exact .inl ⟨_, _, rfl, rfl, (hn2.rewindTo h).addAlt _ _ _⟩

theorem justStep_sim (ts : List Nat) (h : WOk X Q o base c s t) (v : Val) :
    WOut X Q o base c (match justRun X.env ts s with | .inr st' => .ok v st' | .inl st' => .fail st')
      (match justRun X.env' ts t with | .inr st' => .ok v st' | .inl st' => .fail st') := by
  rcases justRun_sim ts s t h with ⟨a, b', e1, e2, hr⟩ | ⟨a, b', e1, e2, hr⟩ <;> rw [e1, e2]
  · exact .fail hr
  · exact .ok _ hr

theorem runCustom_sim (h : WOk X Q o base c s t) (m : Mode) (f : CustomFn) :
    WOut X Q o base c (runCustom X.env m f s) (runCustom X.env' m f t) := by
  obtain ⟨hn1, hn2⟩ := h.next
  obtain ⟨hm1, hm2⟩ := hn2.next
  cases f with
  | next msg =>
    simp only [runCustom, hn1, ← h.pos, ← hn2.pos]
    cases (St.next X.env s).1 with
    | some x => exact .ok _ hn2
    | none => exact .fail (hn2.addAltErr _ _)
  | take2Fail msg =>
    simp only [runCustom, ← h.pos, ← hm2.pos]
    exact .fail (hm2.addAltErr _ _)
  | nothing => exact .ok _ h
  | failNow msg =>
    simp only [runCustom, ← h.pos]
    exact .fail (h.addAltErr _ _)

end prims

section loops
variable {X : Cx} {d : Nat} {R R' : Runner} {N N' : NextRunner} {K K' : MkRunner}
variable {memo0 : Memo} {o : Option Loc}

theorem choiceTuple_sim (hR : SimR X d R R') (m : Mode) {sc tc : St} (hc : WRel X o sc tc) :
    ∀ (gs : List G) (st tt : St), memoSafeL X.ve gs = true → X.Pre (memoNodesL d gs) memo0 →
    WOk X (X.Post memo0) o sc.errs sc.ctx st tt → (gs ≠ [] ∨ st.alt.isSome = true) →
    WOut X (X.Post memo0) o sc.errs sc.ctx (choiceTuple R X.env m sc.save gs st)
      (choiceTuple R' X.env' m tc.save gs tt)
  | [], _, _, _, _, h, hne => .fail (h.toFail (hne.resolve_left fun h' => h' rfl))
  | _ :: gs, _, _, hg, hpre, h, _ =>
    (hR.at (Bool.and_eq_true_iff.1 hg).1 hpre.app_l h m).bind (fun _ _ _ hr => .ok _ hr) fun _ _ hf _ =>
      choiceTuple_sim hR m hc gs _ _ (Bool.and_eq_true_iff.1 hg).2 hpre.app_r (WFail.rewind hc hf) (.inr hf.some)

theorem choiceSlice_sim (hR : SimR X d R R') (m : Mode) {sc tc : St} (hc : WRel X o sc tc) :
    ∀ (gs : List G) (st tt : St), memoSafeL X.ve gs = true → X.Pre (memoNodesL d gs) memo0 →
    WOk X (X.Post memo0) o sc.errs sc.ctx (st.rewind sc.save) (tt.rewind tc.save) →
    (gs ≠ [] ∨ WFail X (X.Post memo0) o sc.errs sc.ctx st tt) →
    WOut X (X.Post memo0) o sc.errs sc.ctx (choiceSlice R X.env m sc.save gs st)
      (choiceSlice R' X.env' m tc.save gs tt)
  | [], _, _, _, _, _, hne => .fail (hne.resolve_left fun h' => h' rfl)
  | _ :: gs, _, _, hg, hpre, h, _ =>
    (hR.at (Bool.and_eq_true_iff.1 hg).1 hpre.app_l h m).bind (fun _ _ _ hr => .ok _ hr) fun _ _ hf _ =>
      choiceSlice_sim hR m hc gs _ _ (Bool.and_eq_true_iff.1 hg).2 hpre.app_r (WFail.rewind hc hf) (.inr hf)

variable {base : List Loc} {c : Val}

theorem groupLoop_sim (hR : SimR X d R R') (m : Mode) :
    ∀ (gs : List G) (st tt : St) (acc : List Val), memoSafeL X.ve gs = true → X.Pre (memoNodesL d gs) memo0 →
    WOk X (X.Post memo0) o base c st tt →
    WOut X (X.Post memo0) o base c (groupLoop R X.env m gs st acc) (groupLoop R' X.env' m gs tt acc)
  | [], _, _, _, _, _, h => .ok _ h
  | _ :: gs, _, _, _, hg, hpre, h =>
    (hR.at (Bool.and_eq_true_iff.1 hg).1 hpre.app_l h m).bind
      (fun _ _ _ hr => groupLoop_sim hR m gs _ _ _ (Bool.and_eq_true_iff.1 hg).2 hpre.app_r hr) fun _ _ hf _ => .fail hf

theorem collectLoop_sim (hN : SimN X d N N') (m : Mode) (it : It) (k : CollKind) (hi : it.memoSafe X.ve = true)
    (hpre : X.Pre (it.memoNodes d) memo0) :
    ∀ (fuel : Nat) (st tt : St) (ist : ItSt) (acc : List Val) (i : Nat), WOk X (X.Post memo0) o base c st tt →
    WOut X (X.Post memo0) o base c (collectLoop N X.env m it k fuel st ist acc i)
      (collectLoop N' X.env' m it k fuel tt ist acc i)
  | 0, _, _, _, _, _, _ => .oof
  | fuel + 1, _, _, ist, _, _, h =>
    (hN.at hi hpre h m ist).bind
      (fun _ _ _ _ hr => by
        simp only [← hr.pos, ← h.pos]
        exact WOut.ite (.panic _) (collectLoop_sim hN m it k hi hpre fuel _ _ _ _ _ hr))
      (fun _ _ _ hr => .ok _ hr) fun _ _ hf => .fail hf

theorem collectExactlyLoop_sim (hN : SimN X d N N') (m : Mode) (it : It) (hi : it.memoSafe X.ve = true)
    (hpre : X.Pre (it.memoNodes d) memo0) :
    ∀ (n : Nat) (st tt : St) (ist : ItSt) (acc : List Val), WOk X (X.Post memo0) o base c st tt →
    WOut X (X.Post memo0) o base c (collectExactlyLoop N X.env m it n st ist acc)
      (collectExactlyLoop N' X.env' m it n tt ist acc)
  | 0, _, _, _, _, h => .ok _ h
  | n + 1, _, _, ist, _, h =>
    (hN.at hi hpre h m ist).bind (fun _ _ _ _ hr => collectExactlyLoop_sim hN m it hi hpre n _ _ _ _ hr)
      (fun _ _ _ hr => by
        simp only [hr.peek, ← hr.pos]
        exact .fail (hr.addAlt _ _ _))
      fun _ _ hf => .fail hf

theorem foldlLoop_sim (hN : SimN X d N N') (m : Mode) (it : It) (hi : it.memoSafe X.ve = true)
    (hpre : X.Pre (it.memoNodes d) memo0) (f1 f2 : Val → Val → St → Val)
    (hf12 : ∀ acc x (a b : St), a.pos = b.pos → f1 acc x a = f2 acc x b) :
    ∀ (fuel : Nat) (st tt : St) (ist : ItSt) (acc : Val), WOk X (X.Post memo0) o base c st tt →
    WOut X (X.Post memo0) o base c (foldlLoop N X.env m it f1 fuel st ist acc)
      (foldlLoop N' X.env' m it f2 fuel tt ist acc)
  | 0, _, _, _, _, _ => .oof
  | fuel + 1, _, _, ist, _, h =>
    (hN.at hi hpre h m ist).bind
      (fun _ _ _ _ hr => by
        simp only [← hr.pos, ← h.pos, ← hf12 _ _ _ _ hr.pos]
        exact WOut.ite (.panic _) (foldlLoop_sim hN m it hi hpre f1 f2 hf12 fuel _ _ _ _ hr))
      (fun _ _ _ hr => .ok _ hr) fun _ _ hf => .fail hf

theorem repeatFast_sim (hR : SimR X d R R') (a : G) (hg : a.memoSafe X.ve = true) (hpre : X.Pre (a.memoNodes d) memo0) :
    ∀ (fuel : Nat) (st tt : St), WOk X (X.Post memo0) o base c st tt →
    WOut X (X.Post memo0) o base c (repeatFast R X.env a fuel st) (repeatFast R' X.env' a fuel tt)
  | 0, _, _, _ => .oof
  | fuel + 1, _, _, h =>
    (hR.at hg hpre h .check).bind
      (fun _ _ _ hr => by
        simp only [← hr.pos, ← h.pos]
        exact WOut.ite (.panic _) (repeatFast_sim hR a hg hpre fuel _ _ hr))
      fun _ _ _ hrw => .ok _ hrw

theorem iterLoop_sim (hN : SimN X d N N') (it : It) (ap : Bool) (hi : it.memoSafe X.ve = true)
    (hpre : X.Pre (it.memoNodes d) memo0) :
    ∀ (fuel : Nat) (st tt : St) (ist : ItSt), WOk X (X.Post memo0) o base c st tt →
    WOut X (X.Post memo0) o base c (iterLoop N X.env it ap fuel st ist) (iterLoop N' X.env' it ap fuel tt ist)
  | 0, _, _, _, _ => .oof
  | fuel + 1, _, _, ist, h =>
    (hN.at hi hpre h .check ist).bind
      (fun _ _ _ _ hr => by
        simp only [← hr.pos, ← h.pos]
        exact WOut.ite (.panic _) (iterLoop_sim hN it ap hi hpre fuel _ _ _ hr))
      (fun _ _ _ hr => .ok _ hr) fun _ _ hf => .fail hf

/-- the two results of the collecting phase of `foldr` -/
inductive WFc (X : Cx) (Q : Memo → Prop) (o : Option Loc) (base : List Loc) (c : Val) :
    (Option (List (Val × Nat) × St)) ⊕ Out → (Option (List (Val × Nat) × St)) ⊕ Out → Prop
  | items (xs : List (Val × Nat)) {a b : St} : WOk X Q o base c a b →
      WFc X Q o base c (.inl (some (xs, a))) (.inl (some (xs, b)))
  | out {x y : Out} : WOut X Q o base c x y → WFc X Q o base c (.inr x) (.inr y)

theorem WFc.ite {Q} {p : Prop} [Decidable p] {x y x' y'} (h1 : WFc X Q o base c x y) (h2 : WFc X Q o base c x' y') :
    WFc X Q o base c (if p then x else x') (if p then y else y') := by
  split <;> assumption

theorem foldrCollect_sim (hN : SimN X d N N') (m : Mode) (it : It) (hi : it.memoSafe X.ve = true)
    (hpre : X.Pre (it.memoNodes d) memo0) :
    ∀ (fuel : Nat) (st tt : St) (ist : ItSt) (acc : List (Val × Nat)), WOk X (X.Post memo0) o base c st tt →
    WFc X (X.Post memo0) o base c (foldrCollect N X.env m it fuel st ist acc)
      (foldrCollect N' X.env' m it fuel tt ist acc)
  | 0, _, _, _, _, _ => .out .oof
  | fuel + 1, _, _, ist, _, h =>
    (hN.at hi hpre h m ist).elim (T := WFc X _ _ _ _)
      (fun _ _ _ _ hr => by
        simp only [← hr.pos, ← h.pos]
        exact WFc.ite (.out (.panic _)) (foldrCollect_sim hN m it hi hpre fuel _ _ _ _ hr))
      (fun _ _ _ hr => .items _ hr) (fun _ _ hf => .out (.fail hf)) (fun _ => .out (.panic _)) (.out .oof)

theorem WFc.bind {Q : Memo → Prop} {x y} {k k' : List (Val × Nat) → St → Out}
    (hk : ∀ xs a b, WOk X Q o base c a b → WOut X Q o base c (k xs a) (k' xs b)) : WFc X Q o base c x y →
    WOut X Q o base c (match x with | .inr o => o | .inl none => .oof | .inl (some (xs, st2)) => k xs st2)
      (match y with | .inr o => o | .inl none => .oof | .inl (some (xs, st2)) => k' xs st2) := by
  intro h
  cases h with
  | items xs h => exact hk _ _ _ h
  | out h => exact h

end loops

theorem labelWith_congr (ek : ErrKind) {a b : Err} (h : a.equiv b) (l : Nat) :
    (ek.labelWith a l).equiv (ek.labelWith b l) := by
  cases ek with
  | rich =>
    obtain ⟨sa, ra, ca⟩ := a
    obtain ⟨sb, rb, cb⟩ := b
    obtain ⟨h1, h2⟩ := h
    simp only at h1 h2
    cases ra <;> cases rb <;> simp only [Reason.equiv] at h2 <;>
      exact ⟨h1, by simp [ErrKind.labelWith, Reason.equiv]⟩
  | simple => exact h
  | cheap => exact h
  | empty => exact h

theorem inContext_congr (ek : ErrKind) {a b : Err} (h : a.equiv b) (l : Nat) (sp : Nat × Nat) :
    (ek.inContext a l sp).equiv (ek.inContext b l sp) := by
  cases ek with
  | rich =>
    simp only [ErrKind.inContext]
    split <;> split <;> exact ⟨h.1, h.2⟩
  | simple => exact h
  | cheap => exact h
  | empty => exact h

/-- the error `labelled` re-adds for the inner pending error `n` -/
def labErr (env : Env) (l : Nat) (asCtx : Bool) (cpos : Nat) (n : Loc) : Err :=
  if n.pos == cpos then env.ek.labelWith n.err l
  else if asCtx && n.pos > cpos then env.ek.inContext n.err l (env.mkSpan cpos n.pos)
  else n.err

theorem labErr_congr (env : Env) (l : Nat) (asCtx : Bool) (cpos : Nat) {n n' : Loc} (h : n.equiv n') :
    (labErr env l asCtx cpos n).equiv (labErr env l asCtx cpos n') := by
  simp only [labErr, h.1]
  split
  · exact labelWith_congr _ h.2 _
  · split
    · exact inContext_congr _ h.2 _ _
    · exact h.2

def labNew (env : Env) (l : Nat) (asCtx : Bool) (cpos : Nat) (new : Option Loc) : Option Loc :=
  new.map (fun n => ⟨n.pos, labErr env l asCtx cpos n⟩)

theorem labNew_congr (env : Env) (l : Nat) (asCtx : Bool) (cpos : Nat) {x y : Option Loc} (h : OptLoc.equiv y x) :
    OptLoc.equiv (labNew env l asCtx cpos y) (labNew env l asCtx cpos x) := by
  cases x <;> cases y <;> simp only [OptLoc.equiv] at h
  · trivial
  · exact ⟨h.1, labErr_congr env l asCtx cpos h⟩

/-- the `finish` closure of `labelled` -/
def labFin (env : Env) (l : Nat) (asCtx : Bool) (old : Option Loc) (c : Chk) (st1 : St) : St :=
  let new := st1.alt
  let st2 := { st1 with alt := old }
  let st3 :=
    match new with
    | none => st2
    | some n =>
      let e :=
        if n.pos == c.pos then env.ek.labelWith n.err l
        else if asCtx && n.pos > c.pos then env.ek.inContext n.err l (env.mkSpan c.pos n.pos)
        else n.err
      St.readdAlt env st2 (some ⟨n.pos, e⟩)
  if asCtx then { st3 with errs := ctxSecondary env l c.pos c.errCount st3.errs } else st3

theorem labFin_eq (env : Env) (l : Nat) (asCtx : Bool) (old : Option Loc) (c : Chk) (st1 : St) :
    labFin env l asCtx old c st1 =
      let st3 := St.readdAlt env { st1 with alt := old } (labNew env l asCtx c.pos st1.alt)
      if asCtx then { st3 with errs := ctxSecondary env l c.pos c.errCount st3.errs } else st3 := by
  unfold labFin labNew labErr
  cases st1.alt <;> rfl

theorem ctxSecondary_prefix {env : Env} {l start : Nat} {base errs : List Loc} (h : base <+: errs) :
    base <+: ctxSecondary env l start base.length errs := by
  simp only [ctxSecondary, take_of_prefix h]
  exact List.prefix_append _ _

theorem ctxSecondary_self (env : Env) (l start : Nat) (errs : List Loc) :
    ctxSecondary env l start errs.length errs = errs := by
  simp [ctxSecondary]

section lab
variable {X : Cx} {Q : Memo → Prop} {o o' : Option Loc} {s t s1 t1 : St}

theorem WOk.ctxErrs (hs : WRel X o s t) (h : WOk X Q o' s.errs s.ctx s1 t1) (l : Nat) :
    WOk X Q o' s.errs s.ctx { s1 with errs := ctxSecondary X.env l s.pos s.errs.length s1.errs }
      { t1 with errs := ctxSecondary X.env l t.pos t.errs.length t1.errs } :=
  ⟨⟨h.pos, h.alt, fun hF => ⟨by
      show ctxSecondary X.env l s.pos s.errs.length s1.errs = ctxSecondary X.env l t.pos t.errs.length t1.errs
      rw [(h.full hF).1, hs.pos, (hs.full hF).1], (h.full hF).2⟩⟩,
    fun hF => ⟨ctxSecondary_prefix (h.frame hF).1, (h.frame hF).2⟩,
    fun hF hE => (congrArg _ (h.stab hF hE)).trans (ctxSecondary_self ..), h.tab⟩

theorem WFail.ctxErrs (hs : WRel X o s t) (h : WFail X Q o' s.errs s.ctx s1 t1) (l : Nat) :
    WFail X Q o' s.errs s.ctx { s1 with errs := ctxSecondary X.env l s.pos s.errs.length s1.errs }
      { t1 with errs := ctxSecondary X.env l t.pos t.errs.length t1.errs } := by
  refine ⟨h.some, h.alt, fun hF => ?_, fun hF hE => ?_, h.tab⟩
  · obtain ⟨f1, f2, f3, f4⟩ := h.full hF
    refine ⟨ctxSecondary_prefix f1, ?_, f3, f4⟩
    show s.errs <+: ctxSecondary X.env l t.pos t.errs.length t1.errs
    rw [← (hs.full hF).1]
    exact ctxSecondary_prefix f2
  · obtain ⟨e1, e2⟩ := h.stab hF hE
    refine ⟨(congrArg _ e1).trans (ctxSecondary_self ..), ?_⟩
    show ctxSecondary X.env l t.pos t.errs.length t1.errs = s.errs
    rw [e2, ← (hs.full hF).1, ctxSecondary_self]

theorem labNew_rel (hs : WRel X o s t) (ha : OptLoc.equiv t1.alt (oplus X.ek none s1.alt)) (l : Nat) (asCtx : Bool) :
    OptLoc.equiv (labNew X.env l asCtx t.save.pos t1.alt) (labNew X.env l asCtx s.save.pos s1.alt) := by
  rw [oplus_none_left] at ha
  rw [show t.save.pos = s.save.pos from hs.pos.symm]
  exact labNew_congr _ _ _ _ ha

theorem WOk.labFin (hs : WRel X o s t) (h : WOk X Q none s.errs s.ctx s1 t1) (l : Nat) (asCtx : Bool) :
    WOk X Q o s.errs s.ctx (labFin X.env l asCtx s.alt s.save s1) (labFin X.env l asCtx t.alt t.save t1) := by
  have hr := h.readd hs.alt (labNew_rel hs h.alt l asCtx)
  rw [labFin_eq, labFin_eq]
  cases asCtx with
  | false => exact hr
  | true => exact hr.ctxErrs hs l

theorem WFail.labFin (hs : WRel X o s t) (h : WFail X Q none s.errs s.ctx s1 t1) (l : Nat) (asCtx : Bool) :
    WFail X Q o s.errs s.ctx (labFin X.env l asCtx s.alt s.save s1) (labFin X.env l asCtx t.alt t.save t1) := by
  obtain ⟨n, hn⟩ := Option.isSome_iff_exists.mp h.some
  have hr := h.readd hs.alt (labNew_rel hs h.alt l asCtx) (by rw [hn]; rfl)
  rw [labFin_eq, labFin_eq]
  cases asCtx with
  | false => exact hr
  | true => exact hr.ctxErrs hs l

end lab

section steps
variable {X : Cx} {d : Nat} {R R' : Runner} {N N' : NextRunner} {K K' : MkRunner}

/-- what `step_sim` assumes about the `memoized` node (`memo_case` proves it, from `step_sim`'s own hypotheses) -/
def MemoCase (X : Cx) (d : Nat) (R R' : Runner) (N N' : NextRunner) (K K' : MkRunner) (L : Nat) : Prop :=
  ∀ (id : Nat) (a : G), a.memoSafe X.ve = true → ∀ (m : Mode) (o : Option Loc) (s t : St), WRel X o s t →
    X.Pre ((id, a, d + 1) :: G.memoNodes (d + 1) a) s.memo →
    WOut X (X.Post s.memo) o s.errs s.ctx (step R N K L X.env m (.memoized id a) s)
      (step R' N' K' L X.env' m (.memoized id a) t)

/-- Every constructor: the sub-runs of the two runs are related by the hypotheses on the runners (`SimR.at` …),
    the `match` on their outcomes by `bind` / `andThen`; where the model writes the alternatives of a `match` in
    another order than the constructors, the pair of outcomes is generalised and split by hand. -/
theorem step_sim (hR : SimR X (d + 1) R R') (hN : SimN X (d + 1) N N') (hK : SimK X (d + 1) K K') (L : Nat)
    (hM : MemoCase X d R R' N N' K K' L) : SimR X d (step R N K L) (step R' N' K' L) := by
  intro g hg m o s t hs hpre
  have h0 : WOk X (X.Post s.memo) o s.errs s.ctx s t := hs.init hpre.refl
  cases g with
  | end_ =>
    obtain ⟨hn1, hn2⟩ := h0.next
    simp only [step_eqs, hn1, save_pos, ← hs.pos, ← hn2.pos]
    cases (St.next X.env s).1 with
    | none => exact .ok _ hn2
    | some x => exact .fail ((hn2.rewindTo h0).addAlt _ _ _)
  | empty => exact .ok _ h0
  | any | oneOf ts | noneOf ts | select ts => exact tokenPrim_sim h0 _ _ _
  | just ts => exact justStep_sim ts h0 _
  | custom f => exact runCustom_sim h0 _ _
  | todo => exact .panic _
  | then_ a b | ignoreThen a b | thenIgnore a b =>
    obtain ⟨ha, hb⟩ := Bool.and_eq_true_iff.1 hg
    exact (hR.at ha hpre.app_l h0 _).andThen fun _ _ _ h1 => (hR.at hb hpre.app_r h1 _).andThen fun _ _ _ h2 => .ok _ h2
  | delimitedBy a l r =>
    obtain ⟨hal, hr⟩ := Bool.and_eq_true_iff.1 hg
    obtain ⟨ha, hl⟩ := Bool.and_eq_true_iff.1 hal
    exact (hR.at hl hpre.app_r.app_l h0 .check).andThen fun _ _ _ h1 =>
      (hR.at ha hpre.app_l h1 m).andThen fun _ _ _ h2 => (hR.at hr hpre.app_r.app_r h2 .check).andThen fun _ _ _ h3 => .ok _ h3
  | paddedBy a p =>
    obtain ⟨ha, hp⟩ := Bool.and_eq_true_iff.1 hg
    exact (hR.at hp hpre.app_r h0 .check).andThen fun _ _ _ h1 =>
      (hR.at ha hpre.app_l h1 m).andThen fun _ _ _ h2 => (hR.at hp hpre.app_r h2 .check).andThen fun _ _ _ h3 => .ok _ h3
  | group gs | groupArr gs => exact groupLoop_sim hR m gs s t [] hg hpre h0
  | or_ a b =>
    obtain ⟨ha, hb⟩ := Bool.and_eq_true_iff.1 hg
    exact (hR.at ha hpre.app_l h0 m).bind (fun _ _ _ h1 => .ok _ h1) fun _ _ _ h1 =>
      (hR.at hb hpre.app_r h1 m).bind (fun _ _ _ h2 => .ok _ h2) fun _ _ hf _ => .fail ((WFail.rewind hs hf).toFail hf.some)
  | choice fl gs =>
    cases fl with
    | tuple =>
      cases gs with
      | nil => exact .panic _
      | cons g gs =>
        cases gs with
        | nil => exact hR g (Bool.and_eq_true_iff.1 hg).1 m o s t hs hpre.app_l
        | cons g2 gs => exact choiceTuple_sim hR m hs (g :: g2 :: gs) s t hg hpre h0 (.inl nofun)
    | slice =>
      cases gs with
      | nil =>
        simp only [step_eqs, ← hs.pos]
        exact .fail (h0.addAlt _ _ _)
      | cons g gs => exact choiceSlice_sim hR m hs (g :: gs) s t hg hpre (h0.rewindTo h0) (.inl nofun)
  | orNot a => exact (hR.at (g := a) hg hpre h0 m).bind (fun _ _ _ h1 => .ok _ h1) fun _ _ _ hrw => .ok _ hrw
  | not_ a =>
    have h := hR.at (g := a) hg hpre h0.altNone .check
    rw [step_not, step_not]
    generalize R X.env _ a _ = x, R' X.env' _ a _ = y at h ⊢
    cases h with
    | @ok _ s1 t1 h1 =>
      have h2 : WOk X (X.Post s.memo) o s.errs s.ctx { s1.rewind s.save with alt := s.alt }
          { t1.rewind t.save with alt := t.alt } := (h1.rewindTo h0).setAltLog hs.alt
      obtain ⟨hn1, hn2⟩ := h2.next
      simp only [hn1, save_pos, ← hs.pos, ← h1.pos]
      exact .fail (hn2.addAlt _ _ _)
    | fail _ hrw => exact .ok _ (hrw.setAltLog hs.alt)
    | panic _ | oof => constructor
  | andIs a b =>
    obtain ⟨ha, hb⟩ := Bool.and_eq_true_iff.1 hg
    have h := hR.at ha hpre.app_l h0 m
    rw [step_andIs, step_andIs]
    generalize R X.env m a s = x, R' X.env' m a t = y at h ⊢
    cases h with
    | ok v h1 =>
      exact (hR.at hb hpre.app_r (h1.rewindInput hs.pos fun hF => (hs.full hF).2.1) .check).bind
        (fun _ _ _ h2 => .ok _ (h2.rewindInput h1.pos fun hF => (h1.full hF).2.1)) fun _ _ hf _ => .fail hf
    | fail hf hrw => exact .fail (hrw.toFail hf.some)
    | panic _ | oof => constructor
  | rewind a =>
    have h := hR.at (g := a) hg hpre h0 m
    rw [step_rewind, step_rewind]
    generalize R X.env m a s = x, R' X.env' m a t = y at h ⊢
    cases h with
    | ok v h1 => exact .ok _ (h1.rewindInput hs.pos fun hF => (hs.full hF).2.1)
    | fail hf _ => exact .fail hf
    | panic _ | oof => constructor
  | map f a | to v a | ignored a => exact (hR.at (g := a) hg hpre h0 _).andThen fun _ _ _ h1 => .ok _ h1
  | filter p a =>
    refine (hR.at (g := a) hg hpre h0 .emit).andThen fun v s1 t1 h1 => ?_
    simp only [save_pos, ← hs.pos, ← h1.pos, (h1.rewindTo h0).peek]
    exact WOut.ite (.ok _ h1) (.fail ((h1.rewindTo h0).addAlt _ _ _))
  | tryMap f a =>
    have h := hR.at (g := a) hg hpre h0.altNone .emit
    rw [step_tryMap, step_tryMap]
    generalize R X.env _ a _ = x, R' X.env' _ a _ = y at h ⊢
    cases h with
    | ok v h1 =>
      simp only [← hs.pos, h1.mkSpan]
      exact WOut.ite (.fail ((h1.setAltLog hs.alt).addAltErr _ _)) (.ok _ (h1.reshelter hs.alt))
    | fail hf _ => exact .fail (hf.reshelter hs.alt)
    | panic _ | oof => constructor
  | tryMapWith f a =>
    refine (hR.at (g := a) hg hpre h0 .emit).andThen fun v s1 t1 h1 => ?_
    simp only [← hs.pos, ← h1.pos]
    exact WOut.ite (.fail (h1.addAltErr _ _)) (.ok _ h1)
  | toSpan a | toSlice a | mapWithSpan a =>
    refine (hR.at (g := a) hg hpre h0 _).andThen fun v s1 t1 h1 => ?_
    simp only [← hs.pos, ← h1.pos]
    exact .ok _ h1
  | validate f a =>
    obtain ⟨hv, ha⟩ := Bool.and_eq_true_iff.1 hg
    refine (hR.at ha hpre h0 .emit).andThen fun v s1 t1 h1 => ?_
    simp only [← hs.pos, h1.mkSpan]
    split
    · exact .ok _ (h1.appendErrs (by simpa using hv) _)
    · exact .ok _ h1
  | collect k it =>
    exact (hK.at (it := it) hg hpre h0 m).bind (fun ist _ _ h1 => collectLoop_sim hN m it k hg hpre L _ _ ist [] 0 h1)
      fun _ _ hf => .fail hf
  | collectExactly n it =>
    exact (hK.at (it := it) hg hpre h0 m).bind (fun ist _ _ h1 => collectExactlyLoop_sim hN m it hg hpre n _ _ ist [] h1)
      fun _ _ hf => .fail hf
  | foldl f a it =>
    obtain ⟨ha, hi⟩ := Bool.and_eq_true_iff.1 hg
    exact (hR.at ha hpre.app_l h0 m).andThen fun va _ _ h1 => (hK.at hi hpre.app_r h1 m).bind
      (fun ist _ _ h2 => foldlLoop_sim hN m it hi hpre.app_r (fun acc x _ => f.evalL acc x) (fun acc x _ => f.evalL acc x)
        (fun _ _ _ _ _ => rfl) L _ _ ist va h2)
      fun _ _ hf => .fail hf
  | foldlWith a it =>
    obtain ⟨ha, hi⟩ := Bool.and_eq_true_iff.1 hg
    exact (hR.at ha hpre.app_l h0 m).andThen fun va _ _ h1 => (hK.at hi hpre.app_r h1 m).bind
      (fun ist _ _ h2 => foldlLoop_sim hN m it hi hpre.app_r _ _
        (fun _ _ x y hxy => by rw [← hs.pos, hxy]; rfl) L _ _ ist va h2)
      fun _ _ hf => .fail hf
  | foldr f it b =>
    obtain ⟨hi, hb⟩ := Bool.and_eq_true_iff.1 hg
    have h := hK.at hi hpre.app_l h0 m
    rw [step_foldr, step_foldr]
    generalize K X.env m it s = x, K' X.env' m it t = y at h ⊢
    cases h with
    | ok ist h1 =>
      exact (foldrCollect_sim hN m it hi hpre.app_l L _ _ ist [] h1).bind fun _ _ _ h2 =>
        (hR.at hb hpre.app_r h2 m).andThen fun _ _ _ h3 => .ok _ h3
    | fail hf => exact .fail hf
    | panic _ | oof => constructor
  | foldrWith it b =>
    obtain ⟨hi, hb⟩ := Bool.and_eq_true_iff.1 hg
    have h := hK.at hi hpre.app_l h0 m
    rw [step_foldrWith, step_foldrWith]
    generalize K X.env m it s = x, K' X.env' m it t = y at h ⊢
    cases h with
    | ok ist h1 =>
      refine (foldrCollect_sim hN m it hi hpre.app_l L _ _ ist [] h1).bind fun _ _ _ h2 =>
        (hR.at hb hpre.app_r h2 m).andThen fun _ _ _ h3 => ?_
      simp only [← h3.pos]
      exact .ok _ h3
    | fail hf => exact .fail hf
    | panic _ | oof => constructor
  | labelled l asCtx a =>
    exact (hR.at (g := a) hg hpre h0.altNone m).bind (fun _ _ _ h1 => .ok _ (h1.labFin hs l asCtx))
      fun _ _ hf _ => .fail (hf.labFin hs l asCtx)
  | mapErr k a =>
    have h := hR.at (g := a) hg hpre h0.altNone m
    rw [step_mapErr, step_mapErr]
    generalize R X.env _ a _ = x, R' X.env' _ a _ = y at h ⊢
    cases h with
    | ok v h1 => exact .ok _ (h1.reshelter hs.alt)
    | @fail s1 t1 hf _ =>
      obtain ⟨n, hn⟩ := Option.isSome_iff_exists.mp hf.some
      have ha := hf.alt
      rw [oplus_none_left, hn] at ha
      cases hn' : t1.alt with
      | none => rw [hn'] at ha; exact ha.elim
      | some n' =>
        rw [hn'] at ha
        simp only [hn, hn']
        exact .fail (hf.readd hs.alt (x := some ⟨n.pos, X.env.ek.labelWith n.err k⟩)
          (y := some ⟨n'.pos, X.env.ek.labelWith n'.err k⟩) ⟨ha.1, labelWith_congr _ ha.2 _⟩ rfl)
    | panic _ | oof => constructor
  | withState a =>
    have h := hR.at (g := a) hg hpre (h0.setInsp (i := []) (i' := []) fun _ => rfl) m
    simp only [step_withState, Out.restoreInsp]
    generalize R X.env m a _ = x, R' X.env' m a _ = y at h ⊢
    cases h with
    | ok v h1 => exact .ok _ (h1.setInsp fun hF => (hs.full hF).2.1)
    | fail hf _ => exact .fail (hf.setInsp _ _)
    | panic _ | oof => constructor
  | iterP it =>
    have generic : ∀ (ap : Bool), X.Pre (it.memoNodes (d + 1)) s.memo →
        WOut X (X.Post s.memo) o s.errs s.ctx
          (match K X.env .check it s with
            | .ok ist st1 => iterLoop N X.env it ap L st1 ist
            | .fail st1 => .fail st1
            | .panic w => .panic w
            | .oof => .oof)
          (match K' X.env' .check it t with
            | .ok ist st1 => iterLoop N' X.env' it ap L st1 ist
            | .fail st1 => .fail st1
            | .panic w => .panic w
            | .oof => .oof) := fun ap hp =>
      (hK.at (it := it) hg hp h0 .check).bind (fun ist _ _ h1 => iterLoop_sim hN it ap hg hp L _ _ ist h1)
        fun _ _ hf => .fail hf
    cases it with
    | repeated a lo hi =>
      cases lo with
      | zero =>
        cases hi with
        | none => exact repeatFast_sim hR a hg hpre L s t h0
        | some h => exact generic true hpre
      | succ lo => exact generic true hpre
    | separatedBy a sep lo hi lead trail => exact generic true hpre
    | intoIter a => exact (hR.at (g := a) hg hpre h0 .check).andThen fun _ _ _ h1 => .ok _ h1
    | enumerate _ | orNotIt _ | thenIt _ _ | mapIt _ _ => exact .panic _
    | configureRep _ _ | tryConfigureRep _ _ => exact nomatch hg
  | memoized id a => exact hM id a hg m o s t hs hpre
  | boxed a => exact hR a hg m o s t hs hpre
  | mapWithState _ | mapWithCtx _ | recoverVia _ _ | recoverSkipUntil _ _ _ _ | recoverSkipRetry _ _ _ | withCtx _ _
  | ignoreWithCtx _ _ | thenWithCtx _ _ | mapCtx _ _ | configureJust _ _ | call _ => exact nomatch hg

theorem stepMk_sim (hR : SimR X (d + 1) R R') (hK : SimK X (d + 1) K K') : SimK X d (stepMk R K) (stepMk R' K') := by
  intro it hg m o s t hs hpre
  have h0 : WOk X (X.Post s.memo) o s.errs s.ctx s t := hs.init hpre.refl
  cases it with
  | repeated a lo hi | separatedBy a sep lo hi lead trail | orNotIt a => exact .ok _ h0
  | enumerate inner =>
    have h := hK.at (it := inner) hg hpre h0 m
    simp only [stepMk]
    generalize K X.env m inner s = x, K' X.env' m inner t = y at h ⊢
    cases h with
    | ok i h1 => exact .ok _ h1
    | fail hf => exact .fail hf
    | panic _ | oof => constructor
  | intoIter a =>
    exact (hR.at (g := a) hg hpre h0 .emit).elim (T := WMk X _ _ _ _) (fun _ _ _ h1 => .ok _ h1) (fun _ _ hf _ => .fail hf)
      .panic .oof
  | thenIt a b =>
    have h := hK.at (Bool.and_eq_true_iff.1 hg).1 hpre.app_l h0 m
    simp only [stepMk]
    generalize K X.env m a s = x, K' X.env' m a t = y at h ⊢
    cases h with
    | ok i h1 => exact .ok _ h1
    | fail hf => exact .fail hf
    | panic _ | oof => constructor
  | mapIt f inner => exact hK inner hg m o s t hs hpre
  | configureRep _ _ | tryConfigureRep _ _ => exact nomatch hg

theorem repeatedNext_sim {d' : Nat} (hR : SimR X d' R R') {a : G} (hg : a.memoSafe X.ve = true) {memo0 : Memo}
    (hpre : X.Pre (a.memoNodes d') memo0) {o : Option Loc} {base : List Loc} {c : Val} {s t : St}
    (h : WOk X (X.Post memo0) o base c s t) (m : Mode) (lo : Nat) (hi : Option Nat) (n : Nat) (wrap : ItSt → ItSt) :
    WIt X (X.Post memo0) o base c (repeatedNext R X.env m a lo hi s n wrap)
      (repeatedNext R' X.env' m a lo hi t n wrap) :=
  WIt.ite (.done _ h) ((hR.at hg hpre h m).elim (T := WIt X _ _ _ _) (fun _ _ _ h1 => .some _ _ h1)
    (fun _ _ hf hrw => WIt.ite (.done _ hrw) (.fail (hrw.toFail hf.some))) .panic .oof)

theorem sepItem_sim {d' : Nat} (hR : SimR X d' R R') {a : G} (hg : a.memoSafe X.ve = true) {o : Option Loc} {s t : St}
    (hs : WRel X o s t) (hpre : X.Pre (a.memoNodes d') s.memo) {st0 tt0 : St}
    (h : WOk X (X.Post s.memo) o s.errs s.ctx st0 tt0) (m : Mode) (lo n : Nat) (trail : Bool) :
    WIt X (X.Post s.memo) o s.errs s.ctx
      (match R X.env m a st0 with
        | .ok v st1 => ItOut.some v st1 (.cnt (n + 1))
        | .fail st1 =>
          if n < lo then .fail (st1.rewind s.save)
          else if trail then .done (st1.rewind st0.save) (.cnt n)
          else .done (st1.rewind s.save) (.cnt n)
        | .panic w => .panic w
        | .oof => .oof)
      (match R' X.env' m a tt0 with
        | .ok v st1 => ItOut.some v st1 (.cnt (n + 1))
        | .fail st1 =>
          if n < lo then .fail (st1.rewind t.save)
          else if trail then .done (st1.rewind tt0.save) (.cnt n)
          else .done (st1.rewind t.save) (.cnt n)
        | .panic w => .panic w
        | .oof => .oof) :=
  (hR.at hg hpre h m).elim (T := WIt X _ _ _ _) (fun _ _ _ h1 => .some _ _ h1)
    (fun _ _ hf hrw =>
      have hb := WFail.rewind hs hf
      WIt.ite (.fail (hb.toFail hf.some)) (WIt.ite (.done _ hrw) (.done _ hb)))
    .panic .oof

theorem separatedNext_sim {d' : Nat} (hR : SimR X d' R R') {a sep : G}
    (hg : a.memoSafe X.ve = true ∧ sep.memoSafe X.ve = true) {o : Option Loc} {s t : St} (hs : WRel X o s t)
    (hpre : X.Pre (a.memoNodes d' ++ sep.memoNodes d') s.memo) (m : Mode) (lo : Nat) (hi : Option Nat)
    (lead trail : Bool) (n : Nat) :
    WIt X (X.Post s.memo) o s.errs s.ctx (separatedNext R X.env m a sep lo hi lead trail s n)
      (separatedNext R' X.env' m a sep lo hi lead trail t n) :=
  have h0 : WOk X (X.Post s.memo) o s.errs s.ctx s t := hs.init hpre.refl
  have item {st0 tt0} (h : WOk X (X.Post s.memo) o s.errs s.ctx st0 tt0) :=
    sepItem_sim hR hg.1 hs hpre.app_l h m lo n trail
  WIt.ite (.done _ h0) (WIt.ite
    ((hR.at hg.2 hpre.app_r h0 .check).elim (T := WIt X _ _ _ _) (fun _ _ _ h1 => item h1) (fun _ _ _ hrw => item hrw)
      .panic .oof)
    (WIt.ite
      ((hR.at hg.2 hpre.app_r h0 .check).elim (T := WIt X _ _ _ _) (fun _ _ _ h1 => item h1)
        (fun _ _ hf hrw => WIt.ite (.fail (hrw.toFail hf.some)) (.done _ hrw)) .panic .oof)
      (item h0)))

theorem stepNext_sim (hR : SimR X (d + 1) R R') (hN : SimN X (d + 1) N N') (hK : SimK X (d + 1) K K') :
    SimN X d (stepNext R N K) (stepNext R' N' K') := by
  intro it hg m o s t ist hs hpre
  have h0 : WOk X (X.Post s.memo) o s.errs s.ctx s t := hs.init hpre.refl
  cases it with
  | repeated a lo hi =>
    cases ist with
    | cnt n => exact repeatedNext_sim hR hg hpre h0 m lo hi n id
    | _ => exact .panic _
  | separatedBy a sep lo hi lead trail =>
    cases ist with
    | cnt n => exact separatedNext_sim hR (Bool.and_eq_true_iff.1 hg) hs hpre m lo hi lead trail n
    | _ => exact .panic _
  | enumerate inner =>
    cases ist with
    | enum k si => exact (hN.at (it := inner) hg hpre h0 m si).relabel _ _
    | _ => exact .panic _
  | orNotIt a =>
    cases ist with
    | fin b =>
      exact WIt.ite (.done _ h0) ((hR.at (g := a) hg hpre h0 m).elim (T := WIt X _ _ _ _) (fun _ _ _ h1 => .some _ _ h1)
        (fun _ _ _ hrw => .done _ hrw) .panic .oof)
    | _ => exact .panic _
  | intoIter a =>
    cases ist with
    | into vs =>
      cases vs with
      | nil => exact .done _ h0
      | cons v rest => exact .some _ _ h0
    | _ => exact .panic _
  | thenIt a b =>
    obtain ⟨ha, hb⟩ := Bool.and_eq_true_iff.1 hg
    cases ist with
    | thn sa sb? =>
      cases sb? with
      | some sb => exact (hN.at hb hpre.app_r h0 m sb).relabel _ _
      | none =>
        have h := hN.at ha hpre.app_l h0 m sa
        simp only [step_eqs]
        generalize N X.env m a s sa = x, N' X.env' m a t sa = y at h ⊢
        cases h with
        | some v i h1 => exact .some _ _ h1
        | done i h1 =>
          have h2 := hK.at hb hpre.app_r h1 m
          dsimp only
          generalize K X.env m b _ = x, K' X.env' m b _ = y at h2 ⊢
          cases h2 with
          | ok sb h3 => exact (hN.at hb hpre.app_r h3 m sb).relabel _ _
          | fail hf => exact .fail hf
          | panic _ | oof => constructor
        | fail hf => exact .fail hf
        | panic _ | oof => constructor
    | _ => exact .panic _
  | mapIt f inner =>
    have h := hN.at (it := inner) hg hpre h0 m ist
    simp only [step_eqs]
    generalize N X.env m inner s ist = x, N' X.env' m inner t ist = y at h ⊢
    cases h with
    | some v i h1 => exact .some _ _ h1
    | done i h1 => exact .done _ h1
    | fail hf => exact .fail hf
    | panic _ | oof => constructor
  | configureRep _ _ | tryConfigureRep _ _ => exact nomatch hg

end steps

/-- the global facts about the nodes of the top grammar: `B` is "is a node", one body per id, ids pairwise distinct -/
structure Cx.Wf (X : Cx) : Prop where
  hB : ∀ {id a k}, (id, a, k) ∈ X.nodes0 → X.B id a
  hB1 : ∀ {id a a'}, X.B id a → X.B id a' → a = a'
  nodup : (X.nodes0.map (·.1)).Nodup

theorem WOut.toM {X : Cx} (hon : X.env.memoOn = true) (hF : X.F) {memo0 : Memo} {o : Option Loc} {base : List Loc}
    {c : Val} {x y : Out} (h : WOut X (X.Post memo0) o base c x y) :
    MOutRel X.ek (TableOK X.B X.Rof X.env' memo0) o base c x y := by
  cases h with
  | ok v h =>
    exact ⟨rfl, ⟨h.pos, (h.full hF).1, (h.full hF).2.1, (h.full hF).2.2, h.alt⟩, h.tab hon⟩
  | fail h =>
    obtain ⟨h1, h2, h3, h4⟩ := h.full hF
    exact ⟨⟨h1, h2, h3, h4, h.some, h.alt⟩, h.tab hon⟩
  | panic w => exact rfl
  | oof => exact trivial

section memo
variable {X : Cx} {d : Nat} {R R' : Runner} {N N' : NextRunner} {K K' : MkRunner}

/-- The relation between the pending errors, equality of the states and the table come from
    `step_memoized_transparent`; what `WOut` says beyond `MOutRel` (the frame of a success, the `validate`-free
    clause) from the simulation of the body started with this node in progress (`hw`), whose result states have
    the secondary errors and the context of the node's result states. -/
theorem memo_case (W : X.env.memoOn = true → X.Wf) (hR : SimR X (d + 1) R R')
    (hRof : X.env.memoOn = true → ∀ id a, (id, a, d + 1) ∈ X.nodes0 → X.Rof id = R')
    (hPD : X.env.memoOn = true → ∀ a : G, a.memoSafe X.ve = true → PosDetermined R' X.env' a) (L : Nat) :
    MemoCase X d R R' N N' K K' L := by
  intro id a hg m o s t hs hpre
  by_cases hon : X.env.memoOn = true
  · have hF := X.hF hon
    have W := W hon
    obtain ⟨hsub, hTI, hNP⟩ := hpre hon
    have hmem : (id, a, d + 1) ∈ X.nodes0 := hsub.subset List.mem_cons_self
    have hsubA : (G.memoNodes (d + 1) a).Sublist X.nodes0 := (List.sublist_cons_self _ _).trans hsub
    have hid : ¬ id ∈ (G.memoNodes (d + 1) a).map (·.1) :=
      (List.nodup_cons.mp (List.Pairwise.sublist (hsub.map fun x : MNode => x.1) W.nodup)).1
    have hNPa : ∀ p i, i ∈ (G.memoNodes (d + 1) a).map (·.1) → memoFind s.memo (p, i) ≠ some none := by
      intro p i hi
      obtain ⟨x, hx, rfl⟩ := List.mem_map.mp hi
      exact hNP p x (List.mem_cons_of_mem _ hx)
    have hBody : ∀ (o : Option Loc) (s t : St), MRel X.ek o s t → TableInv X.B X.Rof X.env' s.memo →
        (∀ p i, i ∈ (G.memoNodes (d + 1) a).map (·.1) → memoFind s.memo (p, i) ≠ some none) →
        MOutRel X.ek (TableOK X.B X.Rof X.env' s.memo) o s.errs s.ctx (R X.env m a s) (R' X.env' m a t) :=
      fun o s t hm hti hnp =>
        (hR a hg m o s t ⟨hm.pos, hm.alt, fun _ => ⟨hm.errs, hm.insp, hm.ctx⟩⟩
          fun _ => ⟨hsubA, hti, fun p x hx => hnp p x.1 (List.mem_map_of_mem hx)⟩).toM hon hF
    have key := step_memoized_transparent (N := N) (N' := N') (K := K) (K' := K') L hon (hRof hon id a hmem)
      (W.hB hmem) (fun a' ha' => W.hB1 ha' (W.hB hmem)) (fun i => i ∈ (G.memoNodes (d + 1) a).map (·.1)) hid
      (hPD hon a hg) m hBody ⟨hs.pos, (hs.full hF).1, (hs.full hF).2.1, (hs.full hF).2.2, hs.alt⟩ hTI
      (fun p => hNP p (id, a, d + 1) List.mem_cons_self) hNPa
    have hw := hR a hg m (oplus X.ek o s.alt) { s with memo := memoInsert s.memo (s.pos, id) none, alt := none } t
      ⟨hs.pos, hs.alt, hs.full⟩
      fun _ => ⟨hsubA, hTI.insert_none _, fun p x hx' => by
        have hne : (p, x.1) ≠ (s.pos, id) := fun h => hid ((Prod.mk.inj h).2 ▸ List.mem_map_of_mem hx')
        rw [memoFind_insert_ne _ _ _ _ hne]
        exact hNPa p x.1 (List.mem_map_of_mem hx')⟩
    rw [step_memoized_off, step_memoized_on R N K L X.env hon] at key ⊢
    generalize R' X.env' m a t = y at key hw ⊢
    generalize R X.env m a { s with memo := memoInsert s.memo (s.pos, id) none, alt := none } = x at key hw ⊢
    cases hf : memoFind s.memo (s.pos, id) with
    | some e? =>
      -- the body is not run; the second run fails, so the body started with this node in progress would, too
      rw [hf] at key
      cases e? with
      | none => exact absurd hf (hNP _ _ List.mem_cons_self)
      | some e =>
        rcases key.cases with ⟨_, _, _, h, _⟩ | ⟨_, t1, h, rfl, hfr, htab⟩ | ⟨_, h, _⟩ | ⟨h, _⟩ <;> cases h
        cases hw with
        | fail hfw =>
          exact .fail ⟨hfr.some, hfr.alt, fun _ => ⟨hfr.errsL, hfr.errsR, hfr.ctxL, hfr.ctxR⟩,
            fun hF' hE => ⟨addAltErr_errs .., (hfw.stab hF' hE).2⟩, fun _ => htab⟩
    | none =>
      rw [hf] at key
      cases hw with
      | ok v h1 =>
        obtain ⟨_, hm, htab⟩ := key
        exact .ok _ ⟨⟨hm.pos, hm.alt, fun _ => ⟨hm.errs, hm.insp, hm.ctx⟩⟩, h1.frame, h1.stab, fun _ => htab⟩
      | fail hf1 =>
        obtain ⟨hfr, htab⟩ := key
        exact .fail ⟨hfr.some, hfr.alt, fun _ => ⟨hfr.errsL, hfr.errsR, hfr.ctxL, hfr.ctxR⟩, hf1.stab, fun _ => htab⟩
      | panic w => exact .panic w
      | oof => exact .oof
  · have hoff : X.env.memoOn = false := by simpa using hon
    have e1 : step R N K L X.env m (.memoized id a) s = R X.env m a s := by rw [step_memoized, hoff]; rfl
    rw [e1, step_memoized_off]
    exact hR a hg m o s t hs hpre.tail

end memo

theorem all_sim (X : Cx) (W : X.env.memoOn = true → X.Wf) (Ntop : Nat)
    (hRof : X.env.memoOn = true → ∀ id a k, (id, a, k) ∈ X.nodes0 → X.Rof id = run (Ntop - k))
    (hPD : X.env.memoOn = true → ∀ (n : Nat) (a : G), a.memoSafe X.ve = true → PosDetermined (run n) X.env' a) :
    ∀ n d, n + d = Ntop → SimR X d (run n) (run n) ∧ SimN X d (next n) (next n) ∧ SimK X d (mkIter n) (mkIter n) := by
  intro n
  induction n with
  | zero =>
    intro d _
    exact ⟨fun _ _ _ _ _ _ _ _ => .oof, fun _ _ _ _ _ _ _ _ _ => .oof, fun _ _ _ _ _ _ _ _ => .oof⟩
  | succ n ih =>
    intro d hd
    obtain ⟨hR, hN, hK⟩ := ih (d + 1) (by omega)
    refine ⟨?_, ?_, ?_⟩
    · show SimR X d (step (run n) (next n) (mkIter n) n) (step (run n) (next n) (mkIter n) n)
      refine step_sim hR hN hK n (memo_case W hR (fun hon id a hmem => ?_) (fun hon => hPD hon n) n)
      rw [hRof hon id a (d + 1) hmem, show Ntop - (d + 1) = n by omega]
    · exact stepNext_sim hR hN hK
    · exact stepMk_sim hR hK

theorem erase_eq_fail {o : Out} {st : St} (h : o.erase = .fail st) : o = .fail st := by
  cases o <;> simp [Out.erase] at h ⊢
  exact h

theorem run_fail_mode {n : Nat} {env : Env} {a : G} {t t1 : St} (h : run n env .emit a t = .fail t1) (m : Mode) :
    run n env m a t = .fail t1 := by
  cases m with
  | emit => exact h
  | check => rw [run_check_eq_erase_emit, h]; rfl

theorem posDetermined_run (env : Env) (hoff : env.memoOn = false) (ve : Bool) (n : Nat) (a : G)
    (hg : a.memoSafe ve = true) : PosDetermined (run n) env a := by
  have hon : ¬ env.memoOn = true := by rw [hoff]; nofun
  let X : Cx := ⟨env, ve, False, fun h => absurd h hon, fun _ _ => False, fun _ => run 0, []⟩
  have he : X.env' = env := Env.withMemo_self env hoff
  have hR : SimR X 0 (run n) (run n) := (all_sim X (fun h => absurd h hon) n (fun h => absurd h hon)
    (fun h => absurd h hon) n 0 rfl).1
  have hpre : ∀ memo, X.Pre (G.memoNodes 0 a) memo := fun _ h => absurd h hon
  -- a pair: the run from `{t with alt := none}` (first) and the run from `t'` (second), offset `t'.alt`
  have pair : ∀ (t0 t' : St), t0.pos = t'.pos →
      WOut X (X.Post ({ t0 with alt := none } : St).memo) t'.alt t0.errs t0.ctx
        (run n env .emit a { t0 with alt := none }) (run n env .emit a t') := by
    intro t0 t' hp
    have := hR a hg .emit t'.alt { t0 with alt := none } t' ⟨hp, by rw [oplus_none_right]; exact OptLoc.equiv_refl _,
      fun h => h.elim⟩ (hpre _)
    rw [he] at this
    exact this
  intro m t t1 hfail
  have hE : run n env .emit a t = .fail t1 := by
    cases m with
    | emit => exact hfail
    | check => rw [run_check_eq_erase_emit] at hfail; exact erase_eq_fail hfail
  have h1 := pair t t rfl
  rw [hE] at h1
  generalize e1 : run n env .emit a { t with alt := none } = x at h1
  cases h1 with
  | @fail s1 _ hf1 =>
    obtain ⟨e, he1⟩ := Option.isSome_iff_exists.mp hf1.some
    refine ⟨e, fun m' t' ht' => ?_⟩
    have h2 := pair t t' ht'.symm
    rw [e1] at h2
    generalize e4 : run n env .emit a t' = y at h2
    cases h2 with
    | @fail _ t1' hf2 =>
      have hm := run_fail_mode e4 m'
      have hfr := (hm ▸ run_refines n env m' a t' hoff).failRel
      exact ⟨t1', hm, hfr.errs, hfr.ctx, he1 ▸ hf2.alt⟩

def memoB (l : List MNode) (id : Nat) (a : G) : Prop := ∃ k, (id, a, k) ∈ l

def memoDepth (l : List MNode) (id : Nat) : Nat :=
  match l.find? (fun x => x.1 == id) with
  | some x => x.2.2
  | none => 0

/-- the runner the body of node `id` is run with, when the top grammar is run with fuel `N` -/
def memoRof (N : Nat) (l : List MNode) (id : Nat) : Runner := run (N - memoDepth l id)

theorem eq_of_nodup_map {α β : Type} {f : α → β} : ∀ {l : List α}, (l.map f).Nodup → ∀ {x y}, x ∈ l → y ∈ l →
    f x = f y → x = y
  | z :: l, hnd, x, y, hx, hy, e => by
    obtain ⟨hz, hl⟩ := List.nodup_cons.mp hnd
    rcases List.mem_cons.mp hx with rfl | hx' <;> rcases List.mem_cons.mp hy with rfl | hy'
    · rfl
    · exact absurd (e ▸ List.mem_map_of_mem hy') hz
    · exact absurd (e ▸ List.mem_map_of_mem hx') hz
    · exact eq_of_nodup_map hl hx' hy' e

theorem nodes_unique {l : List MNode} (hnd : (l.map (·.1)).Nodup) {id a a' k k'} (h1 : (id, a, k) ∈ l)
    (h2 : (id, a', k') ∈ l) : a = a' ∧ k = k' :=
  Prod.mk.inj (Prod.mk.inj (eq_of_nodup_map hnd h1 h2 rfl)).2

theorem memoDepth_eq {l : List MNode} (hnd : (l.map (·.1)).Nodup) {id a k} (h : (id, a, k) ∈ l) :
    memoDepth l id = k := by
  unfold memoDepth
  cases hf : l.find? (fun x => x.1 == id) with
  | none =>
    have := List.find?_eq_none.mp hf _ h
    simp at this
  | some x =>
    have hx : x ∈ l := List.mem_of_find?_eq_some hf
    have hid : x.1 = id := by simpa using List.find?_some hf
    obtain ⟨i, b, k'⟩ := x
    simp only at hid
    subst hid
    exact (nodes_unique hnd hx h).2

def memoCx (env : Env) (ve : Bool) (F : Prop) (hF : env.memoOn = true → F) (N : Nat) (l : List MNode) : Cx :=
  ⟨env, ve, F, hF, memoB l, memoRof N l, l⟩

theorem memoCx_wf (env : Env) (ve : Bool) (F : Prop) (hF : env.memoOn = true → F) (N : Nat) (l : List MNode)
    (hnd : (l.map (·.1)).Nodup) : (memoCx env ve F hF N l).Wf :=
  ⟨fun h => ⟨_, h⟩, fun ⟨_, h1⟩ ⟨_, h2⟩ => (nodes_unique hnd h1 h2).1, hnd⟩

theorem memo_sim_on (env : Env) (ve : Bool) (N : Nat) (l : List MNode) (hnd : (l.map (·.1)).Nodup) :
    ∀ n d, n + d = N →
      SimR (memoCx env ve True (fun _ => trivial) N l) d (run n) (run n) ∧
      SimN (memoCx env ve True (fun _ => trivial) N l) d (next n) (next n) ∧
      SimK (memoCx env ve True (fun _ => trivial) N l) d (mkIter n) (mkIter n) := by
  refine all_sim _ (fun _ => memoCx_wf env ve True _ N l hnd) N ?_ ?_
  · intro _ id a k hmem
    show memoRof N l id = run (N - k)
    rw [memoRof, memoDepth_eq hnd hmem]
  · exact fun _ n a hg => posDetermined_run (env.withMemo false) rfl ve n a hg

/-- `WOut`: `MOutRel` plus, in the `validate`-free class, "the secondary errors never change" -/
theorem run_memo_sim (N : Nat) (env : Env) (ve : Bool) (g : G) (hg : g.memoSafe ve = true) (hnd : g.memoIds.Nodup)
    (m : Mode) (o : Option Loc) (s t : St) (hrel : MRel env.ek o s t)
    (hTI : TableInv (memoB (G.memoNodes 0 g)) (memoRof N (G.memoNodes 0 g)) (env.withMemo false) s.memo)
    (hNP : ∀ p i, i ∈ g.memoIds → memoFind s.memo (p, i) ≠ some none) :
    WOut (memoCx env ve True (fun _ => trivial) N (G.memoNodes 0 g))
      ((memoCx env ve True (fun _ => trivial) N (G.memoNodes 0 g)).Post s.memo) o s.errs s.ctx
      (run N env m g s) (run N (env.withMemo false) m g t) :=
  (memo_sim_on env ve N (G.memoNodes 0 g) hnd N 0 rfl).1 g hg m o s t
    ⟨hrel.pos, hrel.alt, fun _ => ⟨hrel.errs, hrel.insp, hrel.ctx⟩⟩
    fun _ => ⟨List.Sublist.refl _, hTI, fun p x hx => hNP p x.1 (List.mem_map_of_mem hx)⟩

end MF
open MF

/-- **C11, full transparency at the level of `run`.**  `g`: any grammar of the class `memoSafe` (with `memoized` at
    any node), memo ids pairwise distinct.  From states related by `MRel` (equal cursor, secondary errors, inspector,
    context; pending errors related modulo the offset `o`) whose table satisfies the invariant and holds no
    in-progress marker for a node of `g`, the run with memoization ON and the run with memoization OFF are related by
    `MOutRel`: same outcome kind, same value, `MRel` on success, `FRel` on failure, table invariant preserved. -/
theorem run_memo_transparent (N : Nat) (env : Env) (hon : env.memoOn = true) (g : G) (hg : g.memoSafe false = true)
    (hnd : g.memoIds.Nodup) (m : Mode) (o : Option Loc) (s t : St)
    (hrel : MRel env.ek o s t)
    (hTI : TableInv (memoB (G.memoNodes 0 g)) (memoRof N (G.memoNodes 0 g)) (env.withMemo false) s.memo)
    (hNP : ∀ p i, i ∈ g.memoIds → memoFind s.memo (p, i) ≠ some none) :
    MOutRel env.ek (TableOK (memoB (G.memoNodes 0 g)) (memoRof N (G.memoNodes 0 g)) (env.withMemo false) s.memo)
      o s.errs s.ctx (run N env m g s) (run N (env.withMemo false) m g t) :=
  (run_memo_sim N env false g hg hnd m o s t hrel hTI hNP).toM hon trivial

/-- in the `validate`-free class (`memoSafe true`) moreover: all result states, failed ones included, carry exactly
    the secondary errors of the start state -/
theorem run_memo_errs_stable (N : Nat) (env : Env) (g : G) (hg : g.memoSafe true = true)
    (hnd : g.memoIds.Nodup) (m : Mode) (o : Option Loc) (s t : St)
    (hrel : MRel env.ek o s t)
    (hTI : TableInv (memoB (G.memoNodes 0 g)) (memoRof N (G.memoNodes 0 g)) (env.withMemo false) s.memo)
    (hNP : ∀ p i, i ∈ g.memoIds → memoFind s.memo (p, i) ≠ some none) :
    match run N env m g s, run N (env.withMemo false) m g t with
    | .ok _ s1, .ok _ t1 => s1.errs = s.errs ∧ t1.errs = s.errs
    | .fail s1, .fail t1 => s1.errs = s.errs ∧ t1.errs = s.errs
    | _, _ => True := by
  have h := run_memo_sim N env true g hg hnd m o s t hrel hTI hNP
  generalize run N env m g s = x, run N (env.withMemo false) m g t = y at h
  cases h with
  | ok v h => exact ⟨h.stab trivial rfl, (h.full trivial).1 ▸ h.stab trivial rfl⟩
  | fail h => exact h.stab trivial rfl
  | panic w => trivial
  | oof => trivial

theorem run_memo_transparent_empty (N : Nat) (env : Env) (hon : env.memoOn = true) (g : G) (hg : g.memoSafe false = true)
    (hnd : g.memoIds.Nodup) (m : Mode) (s : St) (hs : s.memo = []) :
    match run N env m g s, run N (env.withMemo false) m g s with
    | .ok v s1, .ok v' t1 => v = v' ∧ s1.pos = t1.pos ∧ s1.errs = t1.errs ∧ s1.insp = t1.insp ∧ s1.ctx = t1.ctx ∧
        OptLoc.equiv s1.alt t1.alt
    | .fail s1, .fail t1 => OptLoc.equiv s1.alt t1.alt ∧ s1.alt.isSome = true ∧ s.errs <+: s1.errs ∧ s.errs <+: t1.errs ∧
        s1.ctx = s.ctx ∧ t1.ctx = s.ctx
    | .panic w, .panic w' => w = w'
    | .oof, .oof => True
    | _, _ => False :=
  (run_memo_transparent N env hon g hg hnd m none s s (MRel.refl_none _ s)
    (by rw [hs]; exact TableInv.nil _ _ _) (by intro p i _; rw [hs]; exact nofun)).plain

/-- what the two top-level results share: same kind; same output; with an output, the same error list; without,
    both lists end with the primary error, the same up to `Err.equiv` (order of `expected`) -/
def TopMemoRel : TopOut → TopOut → Prop
  | .result r _, .result r' _ =>
      r.output = r'.output ∧
      match r.output with
      | some _ => r.errs = r'.errs
      | none => ∃ es es' e e', r.errs = es ++ [e] ∧ r'.errs = es' ++ [e'] ∧ e.equiv e'
  | .panic w, .panic w' => w = w'
  | .oof, .oof => True
  | _, _ => False

def ErrsEquiv : List Err → List Err → Prop
  | [], [] => True
  | a :: l, b :: l' => a.equiv b ∧ ErrsEquiv l l'
  | _, _ => False

/-- same kind, same output, the same error list up to `Err.equiv` -/
def TopMemoRelFull : TopOut → TopOut → Prop
  | .result r _, .result r' _ => r.output = r'.output ∧ ErrsEquiv r.errs r'.errs
  | .panic w, .panic w' => w = w'
  | .oof, .oof => True
  | _, _ => False

theorem forall₂_equiv_refl : ∀ l : List Err, ErrsEquiv l l
  | [] => trivial
  | e :: l => ⟨Err.equiv_refl e, forall₂_equiv_refl l⟩

theorem memoSafe_top {ve : Bool} {g : G} (hg : g.memoSafe ve = true) : (G.thenIgnore g .end_).memoSafe ve = true :=
  Bool.and_eq_true_iff.2 ⟨hg, rfl⟩

theorem memoIds_top {g : G} (hnd : g.memoIds.Nodup) : (G.thenIgnore g .end_).memoIds.Nodup := by
  show ((G.memoNodes 1 g ++ []).map (fun x : MNode => x.1)).Nodup
  rw [List.append_nil, G.memoIds_eq]; exact hnd

theorem top_runs (N : Nat) (env : Env) (hon : env.memoOn = true) (g : G) (hg : g.memoSafe false = true)
    (hnd : g.memoIds.Nodup) (m : Mode) :
    MOutRel env.ek (TableOK (memoB (G.memoNodes 0 (.thenIgnore g .end_))) (memoRof N (G.memoNodes 0 (.thenIgnore g .end_)))
      (env.withMemo false) []) none [] .unit
      (run N env m (.thenIgnore g .end_) St.init) (run N (env.withMemo false) m (.thenIgnore g .end_) St.init) :=
  run_memo_transparent N env hon (.thenIgnore g .end_) (memoSafe_top hg) (memoIds_top hnd) m none St.init St.init
    (MRel.refl_none _ _) (TableInv.nil _ _ _) (fun _ _ _ => nofun)

theorem FRel.primary {ek : ErrKind} {base : List Loc} {c : Val} {s t : St} {d d' : Err} (h : FRel ek none base c s t) :
    (match s.alt with | .some a => a.err | .none => d).equiv (match t.alt with | .some a => a.err | .none => d') := by
  have ha := h.alt
  rw [oplus_none_left] at ha
  obtain ⟨a, hs⟩ := Option.isSome_iff_exists.mp h.some
  rw [hs] at ha ⊢
  cases ht : t.alt with
  | none => rw [ht] at ha; exact ha.elim
  | some b => rw [ht] at ha; exact (Loc.equiv_symm ha).2

/-- **C11 at the top level**: `parse`/`check` with memoization ON and OFF: same acceptance, same output, same errors
    (on failure: the same primary error up to the order of `expected`). -/
theorem parseTop_memo_transparent (N : Nat) (env : Env) (hon : env.memoOn = true) (g : G) (hg : g.memoSafe false = true)
    (hnd : g.memoIds.Nodup) (m : Mode) :
    TopMemoRel (parseTop N env m g) (parseTop N (env.withMemo false) m g) := by
  unfold parseTop
  rcases (top_runs N env hon g hg hnd m).cases with ⟨v, s1, t1, e1, e2, hm, _⟩ | ⟨s1, t1, e1, e2, hf, _⟩ |
    ⟨w, e1, e2⟩ | ⟨e1, e2⟩ <;> rw [e1, e2]
  · exact ⟨rfl, congrArg (List.map (·.err)) hm.errs⟩
  · exact ⟨rfl, _, _, _, _, rfl, rfl, hf.primary⟩
  · rfl
  · trivial

/-- **C11 at the top level, `validate`-free class**: same acceptance, same output, the same error list up to
    `Err.equiv`, also when the parse fails. -/
theorem parseTop_memo_transparent_full (N : Nat) (env : Env) (hon : env.memoOn = true) (g : G)
    (hg : g.memoSafe true = true) (hnd : g.memoIds.Nodup) (m : Mode) :
    TopMemoRelFull (parseTop N env m g) (parseTop N (env.withMemo false) m g) := by
  have hst := run_memo_errs_stable N env (.thenIgnore g .end_) (memoSafe_top hg) (memoIds_top hnd) m none
    St.init St.init (MRel.refl_none _ _) (TableInv.nil _ _ _) (fun _ _ _ => nofun)
  unfold parseTop
  rcases (top_runs N env hon g (G.memoSafe_weaken' g hg) hnd m).cases with ⟨v, s1, t1, e1, e2, hm, _⟩ |
    ⟨s1, t1, e1, e2, hf, _⟩ | ⟨w, e1, e2⟩ | ⟨e1, e2⟩ <;> rw [e1, e2] at hst ⊢
  · exact ⟨rfl, hm.errs ▸ forall₂_equiv_refl _⟩
  · exact ⟨rfl, by rw [hst.1, hst.2]; exact ⟨hf.primary, trivial⟩⟩
  · rfl
  · trivial

/-- **C11 read as "inserting `memoized()` changes nothing"**: the grammar with its `memoized` nodes, table on, against
    the grammar with every `memoized id a` replaced by the identity wrapper (`G.stripMemo`, MemoOff.lean). -/
theorem parseTop_memo_vs_plain (N : Nat) (env : Env) (hon : env.memoOn = true) (g : G) (hg : g.memoSafe false = true)
    (hnd : g.memoIds.Nodup) (m : Mode) :
    TopMemoRel (parseTop N env m g)
      (parseTop N { env with memoOn := true, defs := stripMemoL env.defs } m g.stripMemo) := by
  have h := parseTop_memo_transparent N env hon g hg hnd m
  rw [parseTop_stripMemo N (env.withMemo false) rfl true m g] at h
  exact h

theorem parseTop_memo_vs_plain_full (N : Nat) (env : Env) (hon : env.memoOn = true) (g : G)
    (hg : g.memoSafe true = true) (hnd : g.memoIds.Nodup) (m : Mode) :
    TopMemoRelFull (parseTop N env m g)
      (parseTop N { env with memoOn := true, defs := stripMemoL env.defs } m g.stripMemo) := by
  have h := parseTop_memo_transparent_full N env hon g hg hnd m
  rw [parseTop_stripMemo N (env.withMemo false) rfl true m g] at h
  exact h

/-! ### non-vacuity: a grammar with two memoized nodes (one inside the other's sibling, one under a repetition) -/

def memoExample : G :=
  .or_ (.then_ (.memoized 1 (.then_ (.oneOf [1, 2]) (.orNot (.just [3])))) (.just [9]))
       (.collect .vec (.repeated (.memoized 2 (.validate ⟨.tokIs 2, 7, 1⟩ .any)) 0 none))

example : memoExample.memoSafe false = true ∧ memoExample.memoIds.Nodup := by decide

example (N : Nat) (m : Mode) (toks : List Nat) :
    TopMemoRel (parseTop N { toks := toks, memoOn := true } m memoExample)
      (parseTop N (({ toks := toks, memoOn := true } : Env).withMemo false) m memoExample) :=
  parseTop_memo_transparent N _ rfl memoExample (by decide) (by decide) m

/-- sanity: both runs of the example accept `[1, 3, 5]` (second alternative, after the first one — through the
    memoized node 1 — has failed and been rewound) -/
example : (parseTop 20 { toks := [1, 3, 5], memoOn := true } .emit memoExample).accepted = some true ∧
    (parseTop 20 { toks := [1, 3, 5], memoOn := false } .emit memoExample).accepted = some true := by
  decide +kernel

/-- a `validate`-free example (labels, `try_map`, `not`, separated lists, a plain `repeated()`), three memoized nodes -/
def memoExample2 : G :=
  .then_ (.labelled 3 true (.memoized 1 (.tryMap ⟨.tokIs 4, 8, 2⟩ .any)))
    (.or_ (.foldl .pair (.memoized 2 (.just [1])) (.separatedBy (.memoized 3 (.oneOf [1, 2])) (.just [0]) 0 none true false))
          (.ignoreThen (.not_ (.just [7])) (.iterP (.repeated (.noneOf [9]) 0 none))))

example : memoExample2.memoSafe true = true ∧ memoExample2.memoIds.Nodup := by decide

example (N : Nat) (m : Mode) (toks : List Nat) (ek : ErrKind) :
    TopMemoRelFull (parseTop N { toks := toks, ek := ek, memoOn := true } m memoExample2)
      (parseTop N (({ toks := toks, ek := ek, memoOn := true } : Env).withMemo false) m memoExample2) :=
  parseTop_memo_transparent_full N _ rfl memoExample2 (by decide) (by decide) m

/-- a memo *hit* inside the class with pairwise distinct ids: `collect_exactly` has no progress assertion, so the
    second `next` of `repeated(or_not(memoized(just 7)))` re-enters the node at the same position and replays the
    stored failure (the entry is still in the final table); the theorem covers it -/
def memoExampleHit : G := .collectExactly 2 (.repeated (.orNot (.memoized 1 (.just [7]))) 0 none)

def TopOut.memoSize : TopOut → Nat
  | .result _ f => f.memo.length
  | _ => 0

example : memoExampleHit.memoSafe true = true ∧ memoExampleHit.memoIds.Nodup ∧
    (parseTop 20 { toks := [], memoOn := true } .emit memoExampleHit).accepted = some true ∧
    (parseTop 20 { toks := [], memoOn := true } .emit memoExampleHit).memoSize = 1 ∧
    (parseTop 20 { toks := [], memoOn := false } .emit memoExampleHit).accepted = some true := by
  decide +kernel

#print axioms all_sim
#print axioms posDetermined_run
#print axioms run_memo_transparent
#print axioms run_memo_errs_stable
#print axioms run_memo_transparent_empty
#print axioms parseTop_memo_transparent
#print axioms parseTop_memo_transparent_full
#print axioms parseTop_memo_vs_plain
#print axioms parseTop_memo_vs_plain_full
end Chumsky
