/-
  C02 for grammars with extensions: repetitions and separated lists whose items are (or contain) Pratt expressions and nested
  parses — `expr.separated_by(',')` inside a group, a sequence of groups — collect exactly the item chain the reading prescribes.
  The characterisations of `RepSpec.lean` are generic in the item reading; here they are instantiated with `pegE`.
-/
import ChumskyModel.Model.Ext
import ChumskyModel.Proofs.Lemmas.RepSpec
namespace Chumsky

section
variable {e : EEnv} {env : Env} {ctx : Val}

theorem pegNextE_succ (n : Nat) : pegNextE e (n + 1) = pegNext (pegE e n) (pegNextE e n) (pegMkE e n) := by rw [pegNextE]
theorem pegMkE_succ (n : Nat) : pegMkE e (n + 1) = pegMk (pegE e n) (pegMkE e n) := by rw [pegMkE]

theorem pegNextE_repeated (n : Nat) {a lo hi} (s : SS) (k : Nat) :
    pegNextE e (n + 1) env (.repeated a lo hi) s ctx (.cnt k) = sRepeatedNext (pegE e n) env ctx a lo hi s k id := by
  rw [pegNextE_succ]; rfl

theorem pegMkE_repeated (n : Nat) {a lo hi} (s : SS) :
    pegMkE e (n + 1) env (.repeated a lo hi) s ctx = .ok (.cnt 0) s [] := by
  rw [pegMkE_succ]; rfl

theorem pegNextE_separatedBy (n : Nat) {a sep lo hi lead trail} (s : SS) (k : Nat) :
    pegNextE e (n + 1) env (.separatedBy a sep lo hi lead trail) s ctx (.cnt k) =
      sSeparatedNext (pegE e n) env ctx a sep lo hi lead trail s k := by
  rw [pegNextE_succ]; rfl

theorem pegMkE_separatedBy (n : Nat) {a sep lo hi lead trail} (s : SS) :
    pegMkE e (n + 1) env (.separatedBy a sep lo hi lead trail) s ctx = .ok (.cnt 0) s [] := by
  rw [pegMkE_succ]; rfl

theorem pegE_collect_items {n k it s v s' em} (h : pegE e (n + 1) env (.collect k it) s ctx = .ok v s' em) :
    ∃ ist s1 e1 vs e2, pegMkE e n env it s ctx = .ok ist s1 e1 ∧
      Items (pegNextE e n) env ctx it s1 ist vs s' e2 ∧ v = sCollectOut k vs ∧ em = e1 ++ e2 := by
  simp only [pegE, EEnv.find, step_eqs] at h
  cases hK : pegMkE e n env it s ctx with
  | ok ist s1 e1 =>
    rw [hK] at h; simp only at h
    obtain ⟨vs, e', hI, hv, he⟩ := sCollectLoop_sound _ _ _ _ _ _ _ _ _ h
    exact ⟨ist, s1, e1, vs, e', rfl, hI, by simpa using hv, he⟩
  | fail => rw [hK] at h; cases h
  | panic w => rw [hK] at h; cases h
  | oof => rw [hK] at h; cases h

/-- `repeated().collect()` over items read by `pegE` -/
theorem pegE_collect_repeated {n k a lo hi s v s' em}
    (h : pegE e (n + 2) env (.collect k (.repeated a lo hi)) s ctx = .ok v s' em) :
    ∃ vs, RepRun (pegE e n) env ctx a lo hi s vs s' em ∧ v = sCollectOut k vs := by
  obtain ⟨ist, s1, e1, vs, e2, hK, hI, hv, rfl⟩ := pegE_collect_items h
  rw [pegMkE_repeated] at hK
  cases hK
  exact ⟨vs, by simpa using (repeated_items_zero (pegNextE_repeated n)).1 hI, hv⟩

theorem pegE_collect_vec_repeated {n a lo hi s v s' em} (hwf : ∀ h, hi = some h → lo ≤ h)
    (h : pegE e (n + 2) env (.collect .vec (.repeated a lo hi)) s ctx = .ok v s' em) :
    ∃ vs, Chain (pegE e n) env ctx a s vs s' em ∧ v = Val.ofList vs ∧ lo ≤ vs.length ∧
      (∀ h, hi = some h → vs.length ≤ h) ∧ (hi = some vs.length ∨ pegE e n env a s' ctx = .fail) := by
  obtain ⟨vs, hr, rfl⟩ := pegE_collect_repeated h
  exact ⟨vs, hr.chain, rfl, hr.lo_le hwf, hr.le_hi, hr.stop⟩

/-- `separated_by().collect()` over items and separators read by `pegE` -/
theorem pegE_collect_separatedBy {n k a sep lo hi lead trail s v s' em}
    (h : pegE e (n + 2) env (.collect k (.separatedBy a sep lo hi lead trail)) s ctx = .ok v s' em) :
    ∃ vs, SepRun (pegE e n) env ctx a sep lo hi lead trail s vs s' em ∧ v = sCollectOut k vs := by
  obtain ⟨ist, s1, e1, vs, e2, hK, hI, hv, rfl⟩ := pegE_collect_items h
  rw [pegMkE_separatedBy] at hK
  cases hK
  exact ⟨vs, by simpa using (separated_items_zero (pegNextE_separatedBy n)).1 hI, hv⟩
end

end Chumsky
