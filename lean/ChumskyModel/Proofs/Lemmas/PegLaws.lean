/-
  Laws of one step of the reading over an arbitrary reading `P` of the sub-parsers, for the laws that the property files state of
  more than one reading: `peg (n + 1)` is that step over `peg n`, and `pegE e (n + 1)` is that step over `pegE e n` at every node
  that is not an extension reference. (A law in equational form is the equation of `pegStep` in `StepEqns` itself, by `rfl`.)
-/
import ChumskyModel.Proofs.Lemmas.StepEqns
namespace Chumsky

variable {P : SRunner} {N : SNextRunner} {K : SMkRunner} {L : Nat} {env : Env} {s : SS} {ctx : Val}

theorem pegStep_or_first (a b : G) {v s' em} (h : P env a s ctx = .ok v s' em) :
    pegStep P N K L env (.or_ a b) s ctx = .ok v s' em := by
  simp only [pegStep_or, sChoice, h]

theorem pegStep_or_second (a b : G) (h : P env a s ctx = .fail) :
    pegStep P N K L env (.or_ a b) s ctx = P env b s ctx := by
  simp only [pegStep_or, sChoice, h]
  cases P env b s ctx <;> rfl

theorem pegStep_not_ok (a : G) {v s' em} (h : pegStep P N K L env (.not_ a) s ctx = .ok v s' em) :
    s' = s ∧ em = [] ∧ P env a s ctx = .fail := by
  rw [pegStep_not] at h
  cases ha : P env a s ctx <;> rw [ha] at h <;> cases h
  exact ⟨rfl, rfl, rfl⟩

theorem pegStep_recoverVia_ok (a r : G) {v s' em} (h : P env a s ctx = .ok v s' em) :
    pegStep P N K L env (.recoverVia a r) s ctx = .ok v s' em := by
  simp only [pegStep_recoverVia, h]

theorem pegStep_recoverVia_recovers (a r : G) {v s1 em} (ha : P env a s ctx = .fail) (hr : P env r s ctx = .ok v s1 em) :
    pegStep P N K L env (.recoverVia a r) s ctx = .ok v s1 (em ++ [.recovered s1.pos]) := by
  simp only [pegStep_recoverVia, ha, hr]

theorem pegStep_recoverVia_fail (a r : G) (ha : P env a s ctx = .fail) (hr : P env r s ctx = .fail) :
    pegStep P N K L env (.recoverVia a r) s ctx = .fail := by
  simp only [pegStep_recoverVia, ha, hr]

end Chumsky
