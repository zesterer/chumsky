/-
  The master refinement at the level of `Parser::parse` / `Parser::check`.
-/
import ChumskyModel.Proofs.Lemmas.Master
namespace Chumsky

/-- what `parse`/`check` return, related to the PEG reading of "grammar, then end of input" from position 0 -/
def TopRefines (m : Mode) : TopOut → SOut → Prop
  | .result r final, .ok v s em =>
      r.output = some (m.bind v) ∧ final.ss = s ∧ EmsRel final.errs em ∧ r.errs = final.errs.map (·.err)
  | .result r final, .fail =>
      r.output = none ∧ (∃ e, r.errs = final.errs.map (·.err) ++ [e])
  | .panic w, .panic w' => w = w'
  | .oof, .oof => True
  | _, _ => False

theorem Refines.top {m : Mode} {env : Env} {o : Out} {so : SOut} (h : Refines m [] .unit o so) :
    TopRefines m (o.top env) so :=
  h.cases (fun _ _ _ _ h => ⟨congrArg some h.val, rfl, by obtain ⟨new, he, hr⟩ := h.errs; exact he ▸ hr, rfl⟩)
    (fun _ _ => ⟨rfl, _, rfl⟩) (fun _ => rfl) trivial

theorem parseTop_refines (n : Nat) (env : Env) (m : Mode) (g : G) (hm : env.memoOn = false) :
    TopRefines m (parseTop n env m g) (pegTop n env g) :=
  (run_refines n env m (.thenIgnore g .end_) St.init hm).top

/-! what a top-level refinement says about a result, whichever machine produced it -/

theorem TopRefines.reject_iff {m : Mode} {r : ParseResult} {f : St} {so : SOut} (ht : TopRefines m (.result r f) so) :
    r.output = none ↔ so = .fail := by
  cases so <;> simp only [TopRefines] at ht <;> simp
  · rw [ht.1]; simp
  · exact ht.1

/-- an accepted, error-free parse has consumed the whole input -/
theorem TopRefines.whole_input {m : Mode} {r : ParseResult} {f : St} {so : SOut} (ht : TopRefines m (.result r f) so)
    {v : Val} (ho : r.output = some v) (he : r.errs = []) : ∃ v' s, so = .ok v' s [] ∧ v = m.bind v' ∧ f.pos = s.pos := by
  cases so <;> simp only [TopRefines] at ht
  · rename_i v' s em
    obtain ⟨h1, h2, h3, h4⟩ := ht
    have hf : f.errs = [] := by simpa [he] using h4.symm
    rw [hf] at h3
    cases List.eq_nil_of_length_eq_zero (show em.length = 0 by simpa using h3.length.symm)
    exact ⟨v', s, rfl, by simpa [ho] using h1, by rw [← h2]; rfl⟩
  · rw [ho] at ht; simp at ht

/-- the reported errors of an accepted parse are the emissions of the surviving path of the reading, one for one -/
theorem TopRefines.reported_errors {m : Mode} {r : ParseResult} {f : St} {so : SOut}
    (ht : TopRefines m (.result r f) so) {v : Val} (ho : r.output = some v) :
    ∃ v' s em, so = .ok v' s em ∧ EmsRel f.errs em ∧ r.errs = f.errs.map (·.err) ∧ f.ss = s := by
  cases so <;> simp only [TopRefines] at ht
  · exact ⟨_, _, _, rfl, ht.2.2.1, ht.2.2.2, ht.2.1⟩
  · rw [ho] at ht; simp at ht

end Chumsky
