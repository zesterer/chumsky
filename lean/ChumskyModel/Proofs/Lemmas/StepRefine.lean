/-
  What the master refinement needs for the constructors of `step` that neither iterate nor recover: how failures are
  reported, the helpers of `step` (`tokenPrim`, `justRun`, `runCustom`, the two `choice` loops, `groupLoop`), states
  that differ only in fields the relations ignore (`SameAs`), and the context scopes.
-/
import ChumskyModel.Proofs.Lemmas.Refine
namespace Chumsky

variable {R : Runner} {P : SRunner}

theorem ok_refl {m base ctx v st} : OkRel m base ctx (m.bind v) st v st.ss [] ↔
    (st.errs = base ∧ st.ctx = ctx) := by
  constructor
  · intro h
    obtain ⟨new, he, hr⟩ := h.errs
    cases hr.nil_right
    exact ⟨he.trans (List.append_nil _), h.ctx⟩
  · rintro ⟨rfl, rfl⟩
    exact ⟨rfl, rfl, Emitted.refl _, rfl⟩

theorem ite_rel {α β} (Rel : α → β → Prop) {c : Prop} [Decidable c] {a1 a2 : α} {b1 b2 : β}
    (ht : c → Rel a1 b1) (hf : ¬c → Rel a2 b2) : Rel (if c then a1 else a2) (if c then b1 else b2) := by
  split
  · exact ht ‹_›
  · exact hf ‹_›

theorem Refines.ite {m base ctx} {c : Prop} [Decidable c] {o1 o2 : Out} {so1 so2 : SOut}
    (ht : c → Refines m base ctx o1 so1) (hf : ¬c → Refines m base ctx o2 so2) :
    Refines m base ctx (if c then o1 else o2) (if c then so1 else so2) :=
  ite_rel _ ht hf

theorem FailRel.addAlt {base ctx} {st : St} (hp : base <+: st.errs) (hc : st.ctx = ctx) (env : Env) (e f s) :
    FailRel base ctx (st.addAlt env e f s) :=
  ⟨by rw [addAlt_errs]; exact hp, by rw [addAlt_ctx]; exact hc, addAlt_alt_isSome ..⟩

theorem FailRel.addAltErr {base ctx} {st : St} (hp : base <+: st.errs) (hc : st.ctx = ctx) (env : Env) (a e) :
    FailRel base ctx (st.addAltErr env a e) :=
  ⟨by rw [addAltErr_errs]; exact hp, by rw [addAltErr_ctx]; exact hc, addAltErr_alt_isSome ..⟩

theorem fail_after_rewind {env : Env} (st : St) {st1 : St} (hp : st.errs <+: st1.errs)
    (hc : st1.ctx = st.ctx) (e f s) :
    FailRel st.errs st.ctx (St.addAlt env (st1.rewind st.save) e f s) :=
  .addAlt (st := st1.rewind st.save) (by rw [rewind_errs_of_prefix hp]; exact List.prefix_refl _) hc ..

theorem tokenPrim_refines (env : Env) (m : Mode) (st : St) (accept : Nat → Option Val) (exp : List Pat) :
    Refines m st.errs st.ctx (tokenPrim env m st accept exp) (sTokenPrim env st.ss accept) := by
  unfold tokenPrim sTokenPrim
  cases h : env.toks[st.pos]? with
  | none =>
    simp only [next_none h, ss_pos, h, Option.bind_none]
    exact fail_after_rewind st (List.prefix_refl _) rfl ..
  | some t =>
    simp only [next_some h, ss_pos, h, Option.bind_some]
    cases accept t with
    | none =>
      exact fail_after_rewind st (st1 := { st with pos := st.pos + 1, insp := st.insp ++ [t] })
        (List.prefix_refl _) rfl ..
    | some v => exact ⟨rfl, rfl, Emitted.refl _, rfl⟩

/-- `just(seq)`: element-wise walk; a mismatch is reported where the walk began -/
theorem justRun_refines (env : Env) (m : Mode) (v : Val) {base : List Loc} {ctx : Val} :
    ∀ (ts : List Nat) (st : St), st.errs = base → st.ctx = ctx →
      Refines m base ctx
        (match justRun env ts st with
          | .inr st' => .ok (m.bind v) st'
          | .inl st' => .fail st')
        (match sJust env ts st.ss with
          | some s' => .ok v s' []
          | none => .fail)
  | [], st, he, hc => ⟨rfl, rfl, he ▸ Emitted.refl _, hc⟩
  | e :: es, st, he, hc => by
    have hf : ∀ st1 : St, st1.errs = st.errs → st1.ctx = st.ctx → ∀ f s,
        FailRel base ctx (St.addAlt env (st1.rewind st.save) [.tok e] f s) := fun st1 h1 h2 f s =>
      he ▸ hc ▸ fail_after_rewind st (h1 ▸ List.prefix_refl _) h2 ..
    unfold justRun sJust
    cases h : env.toks[st.pos]? with
    | none =>
      simp only [next_none h, ss_pos, h]
      exact hf st rfl rfl ..
    | some t =>
      simp only [next_some h, ss_pos, h, Option.some_beq_some]
      by_cases hte : (t == e) = true
      · rw [if_pos hte, if_pos hte]
        exact justRun_refines env m v es _ he hc
      · rw [if_neg hte, if_neg hte]
        exact hf _ rfl rfl ..

theorem customFn_refines (env : Env) (m : Mode) (f : CustomFn) (st : St) :
    Refines m st.errs st.ctx (runCustom env m f st) (sCustom env f st.ss) := by
  cases f with
  | next msg =>
    unfold runCustom sCustom
    cases h : env.toks[st.pos]? with
    | none =>
      simp only [next_none h, ss_pos, h]
      exact .addAltErr (List.prefix_refl _) rfl ..
    | some t =>
      simp only [next_some h, ss_pos, h]
      exact ⟨rfl, rfl, Emitted.refl _, rfl⟩
  | take2Fail msg =>
    exact .addAltErr (st := ((st.next env).2.next env).2) (by rw [next_errs, next_errs]; exact List.prefix_refl _)
      (by rw [next_ctx, next_ctx]) ..
  | nothing => exact ⟨rfl, rfl, Emitted.refl _, rfl⟩
  | failNow msg => exact .addAltErr (List.prefix_refl _) rfl ..

/-- `st` is the state `st0` possibly after failed attempts that were rewound: same position, inspector,
    secondary errors and context -/
structure SameAs (st st0 : St) : Prop where
  pos : st.pos = st0.pos
  insp : st.insp = st0.insp
  errs : st.errs = st0.errs
  ctx : st.ctx = st0.ctx

theorem SameAs.refl (st : St) : SameAs st st := ⟨rfl, rfl, rfl, rfl⟩

theorem SameAs.ss {st st0 : St} (h : SameAs st st0) : st.ss = st0.ss := by
  rw [St.ss, h.pos, h.insp]; rfl

theorem SameAs.rewind {st st0 : St} (hp : st0.errs <+: st.errs) (hc : st.ctx = st0.ctx) :
    SameAs (st.rewind st0.save) st0 :=
  ⟨rfl, rfl, rewind_errs_of_prefix hp, hc⟩

theorem SameAs.of_rewind {st' st0 : St} (h : FailRel st0.errs st0.ctx st') : SameAs (st'.rewind st0.save) st0 :=
  .rewind h.errs h.ctx

theorem SameAs.withAlt (st : St) (alt : Option Loc) : SameAs { st with alt := alt } st := ⟨rfl, rfl, rfl, rfl⟩

theorem SameAs.readdAlt {st st0 : St} (h : SameAs st st0) (env : Env) (n : Option Loc) :
    SameAs (St.readdAlt env st n) st0 :=
  ⟨(readdAlt_pos ..).trans h.pos, (readdAlt_insp ..).trans h.insp, (readdAlt_errs ..).trans h.errs,
    (readdAlt_ctx ..).trans h.ctx⟩

theorem OkRel.sameAs {m base ctx v st st' v' s em} (h : OkRel m base ctx v st v' s em) (hs : SameAs st' st) :
    OkRel m base ctx v st' v' s em :=
  ⟨h.val, hs.ss.trans h.ss, hs.errs ▸ h.errs, hs.ctx.trans h.ctx⟩

theorem FailRel.sameAs {base ctx st st'} (h : FailRel base ctx st) (hs : SameAs st' st)
    (ha : st'.alt.isSome = true) : FailRel base ctx st' :=
  ⟨hs.errs ▸ h.errs, hs.ctx.trans h.ctx, ha⟩

theorem RunnerRefines.same (hR : RunnerRefines R P) {env : Env} (hm : env.memoOn = false) (m : Mode) (g : G)
    {st st0 : St} (h : SameAs st st0) :
    Refines m st0.errs st0.ctx (R env m g st) (P env g st0.ss st0.ctx) := by
  have := hR env m g st hm
  rwa [h.errs, h.ctx, h.ss] at this

theorem choiceTuple_refines (hR : RunnerRefines R P) (env : Env) (hm : env.memoOn = false) (m : Mode) (st0 : St) :
    ∀ (gs : List G) (st : St), SameAs st st0 → (gs = [] → st.alt.isSome = true) →
      Refines m st0.errs st0.ctx (choiceTuple R env m st0.save gs st) (sChoice P env st0.ctx st0.ss gs)
  | [], st, hs, ha => ⟨hs.errs ▸ List.prefix_refl _, hs.ctx, ha rfl⟩
  | g :: gs, st, hs, _ => by
    unfold choiceTuple sChoice
    exact (hR.same hm m g hs).cases (fun _ _ _ _ h => h)
      (fun st' hf => choiceTuple_refines hR env hm m st0 gs _ (.of_rewind hf) fun _ => hf.alt)
      (fun _ => rfl) trivial

theorem choiceSlice_refines (hR : RunnerRefines R P) (env : Env) (hm : env.memoOn = false) (m : Mode) (st0 : St) :
    ∀ (gs : List G) (st : St), st0.errs <+: st.errs → st.ctx = st0.ctx → (gs = [] → st.alt.isSome = true) →
      Refines m st0.errs st0.ctx (choiceSlice R env m st0.save gs st) (sChoice P env st0.ctx st0.ss gs)
  | [], st, hp, hc, ha => ⟨hp, hc, ha rfl⟩
  | g :: gs, st, hp, hc, _ => by
    unfold choiceSlice sChoice
    exact (hR.same hm m g (.rewind hp hc)).cases (fun _ _ _ _ h => h)
      (fun st' hf => choiceSlice_refines hR env hm m st0 gs _ hf.errs hf.ctx fun _ => hf.alt)
      (fun _ => rfl) trivial

/-- accumulators of values: equal in emit mode, irrelevant in check mode -/
def AccRel (m : Mode) (acc acc' : List Val) : Prop := m = .emit → acc = acc'

theorem AccRel.nil {m : Mode} : AccRel m [] [] := fun _ => rfl

theorem AccRel.cons {m : Mode} {acc acc' : List Val} {v v' : Val} (h : AccRel m acc acc') (hv : v = m.bind v') :
    AccRel m (v :: acc) (v' :: acc') := by
  rintro rfl
  rw [hv, h rfl]; rfl

theorem AccRel.bind_ofList {m : Mode} {acc acc' : List Val} (h : AccRel m acc acc') :
    m.bind (Val.ofList acc.reverse) = m.bind (Val.ofList acc'.reverse) := by
  cases m
  · rw [h rfl]
  · rfl

theorem groupLoop_refines (hR : RunnerRefines R P) {env : Env} (hm : env.memoOn = false) (m : Mode)
    {base : List Loc} {ctx : Val} :
    ∀ (gs : List G) (st : St) (acc acc' : List Val) (em : List Emis),
      Emitted base st.errs em → st.ctx = ctx → AccRel m acc acc' →
      Refines m base ctx (groupLoop R env m gs st acc) (sGroup P env ctx gs st.ss acc' em)
  | [], st, acc, acc', em, he, hc, ha => ⟨ha.bind_ofList, rfl, he, hc⟩
  | g :: gs, st, acc, acc', em, he, hc, ha => by
    unfold groupLoop sGroup
    exact (hR.sub hm m g st hc).cases
      (fun _ _ _ _ h => groupLoop_refines hR hm m gs _ _ _ _ (he.trans h.emitted) h.ctx (ha.cons h.val))
      (fun _ hf => hf.mono he.prefix) (fun _ => rfl) trivial

theorem RunnerRefines.withAlt (hR : RunnerRefines R P) {env : Env} (hm : env.memoOn = false) (m : Mode) (g : G)
    (st : St) (alt : Option Loc) :
    Refines m st.errs st.ctx (R env m g { st with alt := alt }) (P env g st.ss st.ctx) :=
  hR env m g { st with alt := alt } hm

theorem emsRel_replicate (n : Nat) (l : Loc) : EmsRel (List.replicate n l) (List.replicate n (.user l)) := by
  induction n with
  | zero => trivial
  | succ n ih => exact ⟨rfl, ih⟩

theorem Refines.restoreCtx {m base c1 c0 o so} (h : Refines m base c1 o so) :
    Refines m base c0 (o.restoreCtx c0) so :=
  h.cases (fun _ _ _ _ h => ⟨h.val, rfl, h.errs, rfl⟩) (fun _ hf => ⟨hf.errs, rfl, hf.alt⟩) (fun _ => rfl) trivial

/-- the second parser of `ignore_with_ctx` / `then_with_ctx`: run in the context `cv`, the caller's context restored -/
theorem RunnerRefines.atCtx (hR : RunnerRefines R P) {env : Env} (hm : env.memoOn = false) (m : Mode) (g : G)
    (st1 : St) (cv ctx : Val) :
    Refines m st1.errs ctx ((R env m g { st1 with ctx := cv }).restoreCtx ctx) (P env g st1.ss cv) :=
  (hR env m g { st1 with ctx := cv } hm).restoreCtx

theorem emRel_inCtx {env : Env} {l : Loc} {e : Emis} (lbl start : Nat) (h : EmRel l e) :
    EmRel ⟨l.pos, env.ek.inContext l.err lbl (env.mkSpan start l.pos)⟩ (Emis.inCtx env lbl start e) := by
  cases e with
  | user u => cases (h : l = u); rfl
  | recovered p => exact h

theorem emsRel_inCtx {env : Env} (lbl start : Nat) : ∀ {ls : List Loc} {es : List Emis}, EmsRel ls es →
    EmsRel (ls.map fun l => ⟨l.pos, env.ek.inContext l.err lbl (env.mkSpan start l.pos)⟩)
      (es.map (Emis.inCtx env lbl start))
  | [], [], _ => trivial
  | _ :: _, _ :: _, h => ⟨emRel_inCtx lbl start h.1, emsRel_inCtx lbl start h.2⟩

theorem ctxSecondary_append (env : Env) (l start : Nat) (base new : List Loc) :
    ctxSecondary env l start base.length (base ++ new) =
      base ++ new.map fun e => ⟨e.pos, env.ek.inContext e.err l (env.mkSpan start e.pos)⟩ := by
  simp [ctxSecondary]

theorem Emitted.inCtx (h : Emitted base errs em) (env : Env) (l start : Nat) :
    Emitted base (ctxSecondary env l start base.length errs) (em.map (Emis.inCtx env l start)) := by
  obtain ⟨new, rfl, hr⟩ := h
  exact ⟨_, ctxSecondary_append .., emsRel_inCtx l start hr⟩

/-- the last step of `labelled`: with `as_context`, the secondary errors recorded since the start are put in context -/
theorem OkRel.inCtx {m base ctx v st v' s em} (h : OkRel m base ctx v st v' s em) (b : Bool) (env : Env)
    (l start : Nat) :
    OkRel m base ctx v (if b then { st with errs := ctxSecondary env l start base.length st.errs } else st) v' s
      (if b then em.map (Emis.inCtx env l start) else em) := by
  cases b
  · exact h
  · exact ⟨h.val, h.ss, h.emitted.inCtx env l start, h.ctx⟩

theorem FailRel.inCtx {base ctx st} (h : FailRel base ctx st) (b : Bool) (env : Env) (l start : Nat) :
    FailRel base ctx (if b then { st with errs := ctxSecondary env l start base.length st.errs } else st) := by
  cases b
  · exact h
  · exact ⟨by rw [ctxSecondary, take_of_prefix h.errs]; exact List.prefix_append _ _, h.ctx, h.alt⟩

end Chumsky
