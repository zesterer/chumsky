/-
  Lemmas about the five `InputRef` operations of the machine: what each leaves untouched.
-/
import ChumskyModel.Proofs.Lemmas.StepEqns
namespace Chumsky
open St

@[simp] theorem save_pos (st : St) : st.save.pos = st.pos := rfl
@[simp] theorem save_errCount (st : St) : st.save.errCount = st.errs.length := rfl
@[simp] theorem save_insp (st : St) : st.save.insp = st.insp := rfl

@[simp] theorem rewind_pos (st : St) (c : Chk) : (st.rewind c).pos = c.pos := rfl
@[simp] theorem rewind_errs (st : St) (c : Chk) : (st.rewind c).errs = st.errs.take c.errCount := rfl
@[simp] theorem rewind_insp (st : St) (c : Chk) : (st.rewind c).insp = c.insp := rfl
@[simp] theorem rewind_ctx (st : St) (c : Chk) : (st.rewind c).ctx = st.ctx := rfl
@[simp] theorem rewind_alt (st : St) (c : Chk) : (st.rewind c).alt = st.alt := rfl

@[simp] theorem rewindInput_pos (st : St) (c : Chk) : (st.rewindInput c).pos = c.pos := rfl
@[simp] theorem rewindInput_errs (st : St) (c : Chk) : (st.rewindInput c).errs = st.errs := rfl
@[simp] theorem rewindInput_insp (st : St) (c : Chk) : (st.rewindInput c).insp = c.insp := rfl
@[simp] theorem rewindInput_ctx (st : St) (c : Chk) : (st.rewindInput c).ctx = st.ctx := rfl
@[simp] theorem rewindInput_alt (st : St) (c : Chk) : (st.rewindInput c).alt = st.alt := rfl

@[simp] theorem emit_pos (st : St) (a : Nat) (e : Err) : (st.emit a e).pos = st.pos := rfl
@[simp] theorem emit_errs (st : St) (a : Nat) (e : Err) : (st.emit a e).errs = st.errs ++ [⟨a, e⟩] := rfl
@[simp] theorem emit_insp (st : St) (a : Nat) (e : Err) : (st.emit a e).insp = st.insp := rfl
@[simp] theorem emit_ctx (st : St) (a : Nat) (e : Err) : (st.emit a e).ctx = st.ctx := rfl
@[simp] theorem emit_alt (st : St) (a : Nat) (e : Err) : (st.emit a e).alt = st.alt := rfl

theorem next_some {env : Env} {st : St} {t : Nat} (h : env.toks[st.pos]? = some t) :
    st.next env = (some t, { st with pos := st.pos + 1, insp := st.insp ++ [t] }) := by
  simp [St.next, h]

theorem next_none {env : Env} {st : St} (h : env.toks[st.pos]? = none) :
    st.next env = (none, st) := by
  simp [St.next, h]

@[simp] theorem next_errs (env : Env) (st : St) : (st.next env).2.errs = st.errs := by
  unfold St.next; split <;> rfl
@[simp] theorem next_ctx (env : Env) (st : St) : (st.next env).2.ctx = st.ctx := by
  unfold St.next; split <;> rfl
@[simp] theorem next_alt (env : Env) (st : St) : (st.next env).2.alt = st.alt := by
  unfold St.next; split <;> rfl

@[simp] theorem addAlt_pos (env : Env) (st : St) (e f s) : (st.addAlt env e f s).pos = st.pos := by
  unfold St.addAlt; split <;> rfl
@[simp] theorem addAlt_errs (env : Env) (st : St) (e f s) : (st.addAlt env e f s).errs = st.errs := by
  unfold St.addAlt; split <;> rfl
@[simp] theorem addAlt_insp (env : Env) (st : St) (e f s) : (st.addAlt env e f s).insp = st.insp := by
  unfold St.addAlt; split <;> rfl
@[simp] theorem addAlt_ctx (env : Env) (st : St) (e f s) : (st.addAlt env e f s).ctx = st.ctx := by
  unfold St.addAlt; split <;> rfl
@[simp] theorem addAlt_alt_isSome (env : Env) (st : St) (e f s) : (st.addAlt env e f s).alt.isSome = true := by
  unfold St.addAlt
  split
  · rfl
  · simp only
    split
    · rfl
    · split
      · rfl
      · split <;> rfl

theorem mergeAlt_isSome (ek : ErrKind) (alt : Option Loc) (a : Nat) (e : Err) :
    (St.mergeAlt ek alt a e).isSome = true := by
  unfold St.mergeAlt
  split
  · rfl
  · split
    · rfl
    · split <;> rfl

@[simp] theorem addAltErr_pos (env : Env) (st : St) (a e) : (st.addAltErr env a e).pos = st.pos := by
  unfold St.addAltErr; split <;> rfl
@[simp] theorem addAltErr_errs (env : Env) (st : St) (a e) : (st.addAltErr env a e).errs = st.errs := by
  unfold St.addAltErr; split <;> rfl
@[simp] theorem addAltErr_insp (env : Env) (st : St) (a e) : (st.addAltErr env a e).insp = st.insp := by
  unfold St.addAltErr; split <;> rfl
@[simp] theorem addAltErr_ctx (env : Env) (st : St) (a e) : (st.addAltErr env a e).ctx = st.ctx := by
  unfold St.addAltErr; split <;> rfl
@[simp] theorem addAltErr_alt_isSome (env : Env) (st : St) (a e) : (st.addAltErr env a e).alt.isSome = true := by
  unfold St.addAltErr
  split
  · rfl
  · exact mergeAlt_isSome _ _ _ _

@[simp] theorem readdAlt_pos (env : Env) (st : St) (n) : (St.readdAlt env st n).pos = st.pos := by
  unfold St.readdAlt; split; rfl; split <;> rfl
@[simp] theorem readdAlt_errs (env : Env) (st : St) (n) : (St.readdAlt env st n).errs = st.errs := by
  unfold St.readdAlt; split; rfl; split <;> rfl
@[simp] theorem readdAlt_insp (env : Env) (st : St) (n) : (St.readdAlt env st n).insp = st.insp := by
  unfold St.readdAlt; split; rfl; split <;> rfl
@[simp] theorem readdAlt_ctx (env : Env) (st : St) (n) : (St.readdAlt env st n).ctx = st.ctx := by
  unfold St.readdAlt; split; rfl; split <;> rfl
theorem readdAlt_alt_isSome (env : Env) (st : St) (n : Option Loc) :
    (St.readdAlt env st n).alt.isSome = (st.alt.isSome || n.isSome) := by
  unfold St.readdAlt
  split
  · simp
  · split
    · simp
    · simp [mergeAlt_isSome]

/-- truncating to the length of a prefix gives the prefix back -/
theorem take_of_prefix {base l : List Loc} (h : base <+: l) : l.take base.length = base := by
  exact (List.prefix_iff_eq_take.mp h).symm

end Chumsky
