/-
  C16 — `a.nested_in(b)` at any position of any grammar (`Model/Nested.lean`, `HEnv` / `runH` / `pegH`): the machine (ordinary
  `step`, `NestedIn::go` at the hole) refines the reading (ordinary `pegStep`, "the children are matched completely, in
  isolation, the outer input advances by `b`" at the hole). One lemma about `nestedStepM` over an arbitrary runner; the
  induction on the fuel that uses it is `runE_refines_all` (`ExtAll`).
-/
import ChumskyModel.Proofs.Lemmas.NestedRefine
import ChumskyModel.Proofs.Lemmas.Top
namespace Chumsky

variable {R : Runner} {P : SRunner}

theorem HEnv.innerEnv_memoOn (h : HEnv) (env : Env) (kids : List Nat) : (h.innerEnv env kids).memoOn = env.memoOn := rfl

theorem nestedStep_refines (hR : RunnerRefines R P) (h : HEnv) (env : Env) (m : Mode) (st : St)
    (hm : env.memoOn = false) :
    Refines m st.errs st.ctx (nestedStepM R h env m st) (nestedStepS P h env st.ss st.ctx) := by
  unfold nestedStepM nestedStepS
  refine (hR env .emit h.b st hm).cases (fun vb st1 vb' e1 hb => ?_) (fun _ hf => hf) (fun _ => rfl) trivial
  have hv : vb = vb' := hb.val
  subst hv
  dsimp only [SOut.andThen]
  cases h.kidsOf vb with
  | none => rfl
  | some kids =>
    have hin := (hR (h.innerEnv env kids) m h.a
      { pos := 0, errs := [], alt := none, insp := st1.insp, ctx := st1.ctx, memo := [], log := [] } hm).innerThenEnd
      (rend := fun si1 => R (h.innerEnv env kids) .check .end_ si1)
      (pend := fun si1 => P (h.innerEnv env kids) .end_ si1 st1.ctx)
      (fun si hc => hR.sub (env := h.innerEnv env kids) hm .check .end_ si hc)
    dsimp only at hin ⊢
    rw [hb.ctx] at hin ⊢
    exact hin.cases (fun _ _ _ _ h2 => hb.nestedMerge env h2) (fun _ hf => hf.nestedMerge env hb) (fun _ => rfl) trivial

/-- at the hole the reading is: `b` yields a group and consumes it, `a` followed by end-of-input matches the children, the
    result is `a`'s, the outer position is just after `b` -/
theorem pegH_hole (h : HEnv) (n : Nat) (env : Env) (s : SS) (ctx : Val) :
    pegH h (n + 1) env (.call h.hole) s ctx = nestedStepS (pegH h n) h env s ctx := by
  rw [pegH]
  exact if_pos (beq_self_eq_true h.hole)

end Chumsky
