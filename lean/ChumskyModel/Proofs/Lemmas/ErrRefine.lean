/-
  The master refinement for the recovery strategies: what a recovered error adds to the relations, and the
  two skipping loops.
-/
import ChumskyModel.Proofs.Lemmas.StepRefine
namespace Chumsky

variable {R : Runner} {P : SRunner}

theorem OkRel.of_emit {m : Mode} {base : List Loc} {em : List Emis} {ctx : Val} {st : St}
    (he : Emitted base st.errs em) (hc : st.ctx = ctx) {w w' : Val} (e : Err) (hv : w = m.bind w') :
    OkRel m base ctx w (st.emit st.pos e) w' st.ss (em ++ [.recovered st.ss.pos]) :=
  ⟨hv, rfl, he.trans ⟨[⟨st.pos, e⟩], rfl, rfl, trivial⟩, hc⟩

theorem OkRel.recovered {m' m : Mode} {base new1 : List Loc} {e1 e2 : List Emis} {ctx v st2 v' s2}
    (hr1 : EmsRel new1 e1) (h2 : OkRel m' (base ++ new1) ctx v st2 v' s2 e2) {w w' : Val} (e : Err)
    (hv : w = m.bind w') :
    OkRel m base ctx w (st2.emit st2.pos e) w' s2 (e1 ++ e2 ++ [.recovered s2.pos]) :=
  h2.ss ▸ OkRel.of_emit (h2.emitted.rebase hr1) h2.ctx e hv

theorem Emitted.length_le_iff {base errs : List Loc} {em : List Emis} (h : Emitted base errs em) :
    errs.length ≤ base.length ↔ em = [] := by
  obtain ⟨new, rfl, hr⟩ := h
  rw [List.length_append, ← List.length_eq_zero_iff, ← hr.length]
  omega

theorem RunnerRefines.atRewound (hR : RunnerRefines R P) {env : Env} (hm : env.memoOn = false) (m : Mode) (g : G)
    {st st1 : St} {ctx : Val} (hf : FailRel st.errs ctx st1) :
    Refines m st.errs ctx (R env m g (st1.rewind st.save)) (P env g st.ss ctx) := by
  have := hR.sub hm m g (st1.rewind st.save) hf.ctx
  rwa [rewind_errs_of_prefix hf.errs] at this

theorem skipUntilLoop_refines (hR : RunnerRefines R P) {env : Env} (hm : env.memoOn = false) (m : Mode)
    (skip until_ : G) (fb : Val) (alt : Loc) {base : List Loc} {ctx : Val} :
    ∀ (fuel : Nat) (st : St) (em : List Emis), Emitted base st.errs em → st.ctx = ctx →
      Refines m base ctx (skipUntilLoop R env m skip until_ fb alt fuel st)
        (sSkipUntil P env ctx skip until_ fb fuel st.ss em)
  | 0, _, _, _, _ => trivial
  | fuel + 1, st, em, he, hc => by
    unfold skipUntilLoop sSkipUntil
    refine (hR.sub hm .check until_ st hc).cases (fun _ _ _ _ h1 => ?_) (fun st1 hf => ?_) (fun _ => rfl) trivial
    · exact .of_emit (he.trans h1.emitted) h1.ctx alt.err rfl
    · dsimp only
      exact (hR.atRewound hm .check skip hf).cases
        (fun _ _ _ _ h3 => skipUntilLoop_refines hR hm m skip until_ fb alt fuel _ _ (he.trans h3.emitted) h3.ctx)
        (fun _ hf3 => ⟨he.prefix.trans hf3.errs, hf3.ctx, rfl⟩) (fun _ => rfl) trivial

theorem skipRetryLoop_refines (hR : RunnerRefines R P) {env : Env} (hm : env.memoOn = false) (m : Mode)
    (a skip until_ : G) (alt : Loc) {base : List Loc} {ctx : Val} :
    ∀ (fuel : Nat) (st : St) (em : List Emis), Emitted base st.errs em → st.ctx = ctx →
      Refines m base ctx (skipRetryLoop R env m a skip until_ alt fuel st)
        (sSkipRetry P env ctx a skip until_ fuel st.ss em)
  | 0, _, _, _, _ => trivial
  | fuel + 1, st, em, he, hc => by
    unfold skipRetryLoop sSkipRetry
    refine (hR.sub hm .check until_ st hc).cases (fun _ st1 _ _ h1 => ?_) (fun st1 hf => ?_) (fun _ => rfl) trivial
    · exact ⟨(rewind_errs_of_prefix (st' := { st1 with alt := some alt }) h1.emitted.prefix).symm ▸ he.prefix,
        h1.ctx, rfl⟩
    · dsimp only
      refine (hR.atRewound hm .check skip hf).cases (fun _ st3 _ e3 h3 => ?_)
        (fun _ hf3 => ⟨he.prefix.trans hf3.errs, hf3.ctx, rfl⟩) (fun _ => rfl) trivial
      have he3 : Emitted base st3.errs (em ++ e3) := he.trans h3.emitted
      -- a rejected retry: the loop goes on from where the retry began
      have again : ∀ st4 : St, st3.errs <+: st4.errs → st4.ctx = ctx →
          Refines m base ctx
            (skipRetryLoop R env m a skip until_ alt fuel ({ st4 with alt := none }.rewind st3.save))
            (sSkipRetry P env ctx a skip until_ fuel st3.ss (em ++ e3)) := fun st4 hp4 hc4 =>
        skipRetryLoop_refines hR hm m a skip until_ alt fuel _ _
          ((rewind_errs_of_prefix (st' := { st4 with alt := none }) hp4).symm ▸ he3) hc4
      dsimp only
      refine (hR.sub hm m a st3 h3.ctx).cases (fun _ st4 _ e4 h4 => ?_) (fun st4 hf4 => again st4 hf4.errs hf4.ctx)
        (fun _ => rfl) trivial
      cases e4 with
      | nil =>
        simp only [save_errCount, h4.emitted.length_le_iff.2 rfl, ↓reduceIte]
        exact .of_emit (List.append_nil (em ++ e3) ▸ he3.trans h4.emitted) h4.ctx alt.err h4.val
      | cons e es =>
        simp only [save_errCount, mt h4.emitted.length_le_iff.1 (List.cons_ne_nil e es), ↓reduceIte]
        exact again st4 h4.emitted.prefix h4.ctx

end Chumsky
