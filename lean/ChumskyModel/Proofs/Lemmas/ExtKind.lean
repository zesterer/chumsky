/-
  C10 for grammars with several Pratt tables referring to each other (`EEnv` without nested-input extensions): every runner of
  the extension machine commutes with the re-basing of spans, for every input representation.
-/
import ChumskyModel.Proofs.Lemmas.ExtBridge
import ChumskyModel.Proofs.Lemmas.PrattKind
namespace Chumsky

/-- every extension is a Pratt table whose atom / operator grammars carry no span constants -/
def EEnv.PrattOnly (e : EEnv) : Prop :=
  ∀ x ∈ e.exts, ∃ atom ops, x = .pratt atom ops ∧ atom.constOk = true ∧
    ∀ o ∈ ops, (match o with | .infix _ _ g => g | .prefix _ g => g | .postfix _ g => g).constOk = true

theorem EEnv.find_mapConst (e : EEnv) (M : SpMap) (g : G) : e.find (g.mapConst M) = e.find g := by
  cases g <;> rfl

theorem runE_kind_all {M : SpMap} {env env' : Env} (e : EEnv) (h : KindRel M env env') (hp : e.PrattOnly) :
    ∀ n : Nat, KindSimR M env env' (runE e n) ∧ KindSimN M env env' (nextE e n) ∧ KindSimK M env env' (mkIterE e n)
  | 0 => ⟨fun _ _ _ => rfl, fun _ _ _ _ => rfl, fun _ _ _ => rfl⟩
  | n + 1 => by
    obtain ⟨hR, hN, hK⟩ := runE_kind_all e h hp n
    refine ⟨?_, ?_, ?_⟩
    · intro m g st
      simp only [runE]
      rw [EEnv.find_mapConst]
      cases hf : e.find g with
      | none => exact step_kind h hR hN hK n m g st
      | some x =>
        obtain ⟨atom, ops, rfl, hatom, hops⟩ := hp x (EEnv.find_mem hf)
        dsimp only
        have := prattGo_kind h hR m atom ops n 0 st
        rwa [G.mapConst_of_constOk _ atom hatom, opsMapConst_of_constOk _ ops hops] at this
    · simp only [nextE]; exact stepNext_kind hR hN hK
    · simp only [mkIterE]; exact stepMk_kind h hR hK

/-- **C10 for recursive expression grammars** (atom and operator grammars whose literal constants carry no span): every
    runner of the one-table machine commutes with the re-basing of spans -/
theorem runX_kind_all {M : SpMap} {env env' : Env} (x : XEnv) (h : KindRel M env env') (hatom : x.atom.constOk = true)
    (hops : ∀ o ∈ x.ops, (match o with | .infix _ _ g => g | .prefix _ g => g | .postfix _ g => g).constOk = true)
    (n : Nat) : KindSimR M env env' (runX x n) ∧ KindSimN M env env' (nextX x n) ∧ KindSimK M env env' (mkIterX x n) := by
  obtain ⟨h1, h2, h3⟩ := runX_eq_runE x n
  rw [h1, h2, h3]
  exact runE_kind_all x.toE h (fun e he => ⟨x.atom, x.ops, List.mem_singleton.1 he, hatom, hops⟩) n

end Chumsky
