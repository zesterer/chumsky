/-
  Proofs/Lemmas/MemoSim.lean — C11: `memoized()` is transparent — the local (one-node) theorem, the table invariant,
  and the witnesses that every side condition is needed.   (The OFF side alone: MemoOff.lean.)

  The two runs:   ON  = `env` with `memoOn = true`   (the table `St.memo : (pos, id) ↦ some e | none` is consulted)
                  OFF = `env.withMemo false`        (`memoized id a` is `a`)

  What differs between them, even when the table is never hit:
    * ON shelters the pending error: the body runs from `alt = none` and the old pending error is merged back
      afterwards (`readdAlt`), OFF runs the body from the old pending error.  Hence the relation between the states
      carries an offset `o` ("what the ON run has set aside"): `alt_OFF ≈ o ⊕ alt_ON` (`MRel`), where `⊕` (`oplus`) is
      the priority rule of `add_alt_err`, associative and a congruence up to `OptLoc.equiv` (`oplus_assoc`, `oplus_congr`).
    * after a *hit* the ON run returns the state it was called with (plus the stored error), the OFF run returns the
      state at the point of failure.  So for failing runs only the frame is related (`FRel`: the secondary errors
      present at the start are still a prefix, the context is restored, the pending errors are related) — exactly
      what every caller needs, because every caller rewinds a failed sub-run to a checkpoint (cf. `FailRel` of I1).

  The table invariant `TableInv`: every stored `(p, id) ↦ some e` is the *contribution* of the body at `p`:
      from ANY state at position `p` (any pending error, secondary errors, inspector, context, mode) the OFF run of
      the body fails, keeps the frame, and leaves `alt ≈ alt_before ⊕ e`                       (`Contribution`).
  It is indexed by the runner each node's body is run with (`Rof id`): in a call-free grammar a node sits at a fixed
  depth, so its body always runs at the same fuel.  (With `call`, a hit saves fuel: ON can finish where OFF is out of
  fuel *at the same fuel* — a global statement for recursive grammars has to be "if OFF finishes at fuel n, …".)
  `TableOK` adds what a run promises about in-progress entries (`InProgSub`: none of its own is left behind), so that
  the no-re-entry precondition can be threaded through a global induction.

  Side conditions, all of them necessary (witnesses at the end of the file, `decide`d on the model):
    (i)   one body per memo id, not occurring inside itself  (`hB1`, `hid`;  `cex_sameId`: ON rejects what OFF accepts)
    (ii)  no re-entry while in progress           (`hNoProg`, `hNoProgA`; `cex_leftRec`: ON terminates, OFF runs out of fuel)
    (iii) the body's failure and contribution are determined by the position alone — not by the context, the
          inspector, the mode or the incoming pending error
                                                    (`PosDetermined`; `cex_ctx`:  ON rejects what OFF accepts)
    (iv)  the body is simulated in lock-step *with equal secondary errors* — false when a recovery strategy sits
          under `memoized`, because recovery emits the pending error, which is sheltered in one run only
                                                    (`hBody`;  `cex_recovery`: different secondary error)

  `step_memoized_transparent` proves, from the induction hypothesis for the body (`hBody`, in the offset form that a
  global induction over the fuel would supply) that one `memoized` node preserves the simulation in all three cases:
      miss/success (entry removed), miss/failure (entry stored — `TableInv` re-established from (iii)), and
      hit (`hit_replays`: `add_alt_err` with the stored error ≈ re-running the body).
  `memoized_top` is the reading at offset `none` (what a caller sees).
  `posDetermined_oneOf` / `tokenPrim_contribution`: (iii) holds for the one-token primitives (hypotheses satisfiable).

  Not here but in MemoFull.lean: the global theorem `run n ON ≈ run n OFF` for a syntactic class.  It pushes this
  file's relation through all other constructors (with `FRel`'s weak failure frame as in I1) and proves (iii) for `run`
  (determinism in the position = I1 + independence of the failure from `ctx`/`insp`/mode/pending error).
-/
import ChumskyModel.Proofs.Lemmas.Summ
namespace Chumsky

def oplus (ek : ErrKind) (x y : Option Loc) : Option Loc :=
  match y with
  | none => x
  | some n =>
    match ek with
    | .empty => some n
    | ek => St.mergeAlt ek x n.pos n.err

@[simp] theorem oplus_none_right (ek : ErrKind) (x : Option Loc) : oplus ek x none = x := rfl

theorem oplus_some_empty (x : Option Loc) (n : Loc) : oplus .empty x (some n) = some n := rfl

theorem oplus_some_of_ne {ek : ErrKind} (h : ek ≠ .empty) (x : Option Loc) (n : Loc) :
    oplus ek x (some n) = St.mergeAlt ek x n.pos n.err := by
  cases ek <;> first | rfl | exact absurd rfl h

@[simp] theorem oplus_none_left (ek : ErrKind) (y : Option Loc) : oplus ek none y = y := by
  cases y with
  | none => rfl
  | some n => cases ek <;> rfl

theorem readdAlt_eq (env : Env) (st : St) (new : Option Loc) :
    St.readdAlt env st new = { st with alt := oplus env.ek st.alt new } := by
  obtain ⟨toks, kind, tspans, eoi, ek, defs, memoOn⟩ := env
  cases new with
  | none => rfl
  | some n => cases ek <;> rfl

theorem addAltErr_eq (env : Env) (st : St) (p : Nat) (e : Err) :
    St.addAltErr env st p e = { st with alt := oplus env.ek st.alt (some ⟨p, e⟩), log := st.log ++ [⟨p, e⟩] } := by
  obtain ⟨toks, kind, tspans, eoi, ek, defs, memoOn⟩ := env
  cases ek <;> rfl

theorem oplus_isSome_right (ek : ErrKind) (x : Option Loc) {y : Option Loc} (h : y.isSome = true) :
    (oplus ek x y).isSome = true := by
  cases y with
  | none => cases h
  | some n =>
    by_cases he : ek = .empty
    · subst he; rfl
    · rw [oplus_some_of_ne he]; exact mergeAlt_isSome _ _ _ _

theorem oplus_congr {ek : ErrKind} {x x' y y' : Option Loc} (hx : OptLoc.equiv x x') (hy : OptLoc.equiv y y') :
    OptLoc.equiv (oplus ek x y) (oplus ek x' y') := by
  cases y with
  | none =>
    cases y' with
    | none => exact hx
    | some _ => exact hy.elim
  | some n =>
    cases y' with
    | none => exact hy.elim
    | some n' =>
      by_cases he : ek = .empty
      · subst he; exact hy
      · rw [oplus_some_of_ne he, oplus_some_of_ne he]; exact mergeAlt_congr_loc hx hy

/-- the priority rule is associative up to `equiv`: setting `y` aside and merging it back later changes nothing -/
theorem oplus_assoc (ek : ErrKind) (x y z : Option Loc) :
    OptLoc.equiv (oplus ek x (oplus ek y z)) (oplus ek (oplus ek x y) z) := by
  cases z with
  | none => exact OptLoc.equiv_refl _
  | some c =>
    by_cases he : ek = .empty
    · subst he; exact OptLoc.equiv_refl _
    · cases y with
      | none => simp only [oplus_none_left, oplus_none_right]; exact OptLoc.equiv_refl _
      | some m =>
        obtain ⟨n, hn⟩ := Option.isSome_iff_exists.mp (mergeAlt_isSome ek (some m) c.pos c.err)
        rw [oplus_some_of_ne he (some m), hn, oplus_some_of_ne he, oplus_some_of_ne he, oplus_some_of_ne he]
        exact mergeAlt_assoc x hn

theorem memoFind_filter (key key' : Nat × Nat) : ∀ memo : List ((Nat × Nat) × Option Loc),
    memoFind (memo.filter (fun kv => kv.1 != key)) key' = if key' = key then none else memoFind memo key'
  | [] => by split <;> rfl
  | (k, v) :: rest => by
    have ih := memoFind_filter key key' rest
    by_cases hk : k = key
    · rw [List.filter_cons_of_neg (by simpa using hk), ih]
      by_cases h : key' = key
      · rw [if_pos h, if_pos h]
      · rw [if_neg h, if_neg h, memoFind, if_neg (by simpa using fun h' : k = key' => h (h' ▸ hk))]
    · rw [List.filter_cons_of_pos (by simpa using hk), memoFind, ih]
      by_cases h : key' = key
      · rw [if_pos h, if_pos h, if_neg (by simpa using fun h' : k = key' => hk (h' ▸ h))]
      · rw [if_neg h, if_neg h, memoFind]

theorem memoFind_remove_self (memo : List ((Nat × Nat) × Option Loc)) (key : Nat × Nat) :
    memoFind (memoRemove memo key) key = none := (memoFind_filter key key memo).trans (if_pos rfl)

theorem memoFind_remove_ne (memo : List ((Nat × Nat) × Option Loc)) (key key' : Nat × Nat) (h : key' ≠ key) :
    memoFind (memoRemove memo key) key' = memoFind memo key' := (memoFind_filter key key' memo).trans (if_neg h)

theorem memoFind_insert_self (memo : List ((Nat × Nat) × Option Loc)) (key : Nat × Nat) (v : Option Loc) :
    memoFind (memoInsert memo key v) key = some v := by
  rw [memoInsert, memoFind, if_pos (beq_self_eq_true key)]

theorem memoFind_insert_ne (memo : List ((Nat × Nat) × Option Loc)) (key key' : Nat × Nat) (v : Option Loc)
    (h : key' ≠ key) : memoFind (memoInsert memo key v) key' = memoFind memo key' := by
  rw [memoInsert, memoFind, if_neg (by simpa using fun h' : key = key' => h h'.symm)]
  exact memoFind_remove_ne memo key key' h

def Env.withMemo (env : Env) (b : Bool) : Env := { env with memoOn := b }

@[simp] theorem Env.withMemo_ek (env : Env) (b : Bool) : (env.withMemo b).ek = env.ek := rfl
@[simp] theorem Env.withMemo_memoOn (env : Env) (b : Bool) : (env.withMemo b).memoOn = b := rfl

/-- ON state `s` vs OFF state `t`, lock-step: everything but the pending error (and the table and the ghost log) is
    equal; the OFF run still carries what the ON run has set aside (`o`) -/
structure MRel (ek : ErrKind) (o : Option Loc) (s t : St) : Prop where
  pos : s.pos = t.pos
  errs : s.errs = t.errs
  insp : s.insp = t.insp
  ctx : s.ctx = t.ctx
  alt : OptLoc.equiv t.alt (oplus ek o s.alt)

/-- after a failure only the frame is related: `base` = the secondary errors at the start of the run, `c` = the
    caller's context (callers rewind `pos`, `insp` and the secondary errors beyond `base`) -/
structure FRel (ek : ErrKind) (o : Option Loc) (base : List Loc) (c : Val) (s t : St) : Prop where
  errsL : base <+: s.errs
  errsR : base <+: t.errs
  ctxL : s.ctx = c
  ctxR : t.ctx = c
  some : s.alt.isSome = true
  alt : OptLoc.equiv t.alt (oplus ek o s.alt)

/-- outcome of the ON run vs outcome of the OFF run; `TI` = the table invariant (of the ON state) -/
def MOutRel (ek : ErrKind) (TI : List ((Nat × Nat) × Option Loc) → Prop) (o : Option Loc) (base : List Loc) (c : Val) :
    Out → Out → Prop
  | .ok v s, .ok v' t => v = v' ∧ MRel ek o s t ∧ TI s.memo
  | .fail s, .fail t => FRel ek o base c s t ∧ TI s.memo
  | .panic w, .panic w' => w = w'
  | .oof, .oof => True
  | _, _ => False

/-- "`e` is what `a` contributes at position `p`": from every state at `p` the (OFF) run of `a` fails, keeps the
    frame and merges `e` into the pending error -/
def Contribution (R' : Runner) (env' : Env) (a : G) (p : Nat) (e : Loc) : Prop :=
  ∀ (m : Mode) (t : St), t.pos = p →
    ∃ t1, R' env' m a t = .fail t1 ∧ t.errs <+: t1.errs ∧ t1.ctx = t.ctx ∧
      OptLoc.equiv t1.alt (oplus env'.ek t.alt (some e))

theorem Contribution.congr {R' : Runner} {env' : Env} {a : G} {p : Nat} {e e' : Loc}
    (h : Contribution R' env' a p e) (he : e.equiv e') : Contribution R' env' a p e' := by
  intro m t ht
  obtain ⟨t1, h1, h2, h3, h4⟩ := h m t ht
  exact ⟨t1, h1, h2, h3, OptLoc.equiv_trans h4 (oplus_congr (OptLoc.equiv_refl _) he)⟩

/-- (iii): if the body fails once at a position, it has a contribution there (it fails from every state at that
    position, in every mode, with the same error merged in) -/
def PosDetermined (R' : Runner) (env' : Env) (a : G) : Prop :=
  ∀ (m : Mode) (t t1 : St), R' env' m a t = .fail t1 → ∃ e, Contribution R' env' a t.pos e

/-- the table invariant: every stored failure is the contribution of (every) body with that id.
    `B id a` = "`memoized id a` is a node of the grammar"; `Rof id` = the (OFF) runner the body of node `id` is run with
    (in a call-free grammar a node sits at a fixed depth, so its body always runs at the same fuel) -/
def TableInv (B : Nat → G → Prop) (Rof : Nat → Runner) (env' : Env) (memo : List ((Nat × Nat) × Option Loc)) : Prop :=
  ∀ (p id : Nat) (e : Loc), memoFind memo (p, id) = some (some e) → ∀ a, B id a → Contribution (Rof id) env' a p e

theorem TableInv.nil (B : Nat → G → Prop) (Rof : Nat → Runner) (env' : Env) : TableInv B Rof env' [] := by
  intro p id e h; cases h

theorem TableInv.remove {B Rof env' memo} (h : TableInv B Rof env' memo) (key : Nat × Nat) :
    TableInv B Rof env' (memoRemove memo key) := by
  intro p id e hf a ha
  by_cases hk : (p, id) = key
  · rw [hk, memoFind_remove_self] at hf; cases hf
  · rw [memoFind_remove_ne _ _ _ hk] at hf; exact h p id e hf a ha

theorem TableInv.insert_none {B Rof env' memo} (h : TableInv B Rof env' memo) (key : Nat × Nat) :
    TableInv B Rof env' (memoInsert memo key none) := by
  intro p id e hf a ha
  by_cases hk : (p, id) = key
  · rw [hk, memoFind_insert_self] at hf; cases hf
  · rw [memoFind_insert_ne _ _ _ _ hk] at hf; exact h p id e hf a ha

theorem TableInv.insert_some {B Rof env' memo} (h : TableInv B Rof env' memo) (p id : Nat) (e : Loc)
    (he : ∀ a, B id a → Contribution (Rof id) env' a p e) :
    TableInv B Rof env' (memoInsert memo (p, id) (some e)) := by
  intro p' id' e' hf a ha
  by_cases hk : (p', id') = (p, id)
  · rw [hk, memoFind_insert_self] at hf
    cases hf
    cases hk
    exact he a ha
  · rw [memoFind_insert_ne _ _ _ _ hk] at hf; exact h p' id' e' hf a ha

theorem MOutRel.cases {ek TI o base c} {x y : Out} (h : MOutRel ek TI o base c x y) :
    (∃ v s t, x = .ok v s ∧ y = .ok v t ∧ MRel ek o s t ∧ TI s.memo) ∨
    (∃ s t, x = .fail s ∧ y = .fail t ∧ FRel ek o base c s t ∧ TI s.memo) ∨
    (∃ w, x = .panic w ∧ y = .panic w) ∨ (x = .oof ∧ y = .oof) := by
  cases x <;> cases y <;> try exact False.elim h
  · obtain ⟨rfl, hm, hti⟩ := h
    exact .inl ⟨_, _, _, rfl, rfl, hm, hti⟩
  · exact .inr (.inl ⟨_, _, rfl, rfl, h⟩)
  · cases h
    exact .inr (.inr (.inl ⟨_, rfl, rfl⟩))
  · exact .inr (.inr (.inr ⟨rfl, rfl⟩))

/-- no new in-progress entry: what is in progress in `memo` was already in progress in `memo0` -/
def InProgSub (memo0 memo : List ((Nat × Nat) × Option Loc)) : Prop :=
  ∀ key, memoFind memo key = some none → memoFind memo0 key = some none

theorem InProgSub.close {memo memo1 memo2 : List ((Nat × Nat) × Option Loc)} {key : Nat × Nat}
    (h : InProgSub (memoInsert memo key none) memo1) (hk : memoFind memo2 key ≠ some none)
    (hne : ∀ key', key' ≠ key → memoFind memo2 key' = memoFind memo1 key') : InProgSub memo memo2 := by
  intro key' h'
  by_cases e : key' = key
  · exact absurd (e ▸ h') hk
  · have := h key' (hne key' e ▸ h')
    rwa [memoFind_insert_ne _ _ _ _ e] at this

/-- what a run guarantees about the table it leaves: the invariant, and no in-progress entry of its own -/
def TableOK (B : Nat → G → Prop) (Rof : Nat → Runner) (env' : Env) (memo0 memo : List ((Nat × Nat) × Option Loc)) :
    Prop :=
  TableInv B Rof env' memo ∧ InProgSub memo0 memo

theorem addAltErr_memo (env : Env) (st : St) (p : Nat) (e : Err) : (St.addAltErr env st p e).memo = st.memo := by
  rw [addAltErr_eq]

/-- ON: `add_alt_err` with the stored error.  OFF: re-running the body.  Same failure frame, related pending errors. -/
theorem hit_replays {R' : Runner} {env : Env} {a : G} {o : Option Loc} {st t : St} {e : Loc} (m : Mode)
    (hrel : MRel env.ek o st t) (hc : Contribution R' (env.withMemo false) a st.pos e) :
    ∃ t1, R' (env.withMemo false) m a t = .fail t1 ∧
      FRel env.ek o st.errs st.ctx (St.addAltErr env st e.pos e.err) t1 := by
  obtain ⟨t1, h1, h2, h3, h4⟩ := hc m t hrel.pos.symm
  -- t1.alt ≈ t.alt ⊕ e ≈ (o ⊕ st.alt) ⊕ e ≈ o ⊕ (st.alt ⊕ e)
  have halt : OptLoc.equiv t1.alt (oplus env.ek o (oplus env.ek st.alt (some e))) :=
    OptLoc.equiv_trans h4 (OptLoc.equiv_trans (oplus_congr hrel.alt (OptLoc.equiv_refl _))
      (OptLoc.equiv_symm (oplus_assoc _ _ _ _)))
  rw [addAltErr_eq]
  exact ⟨t1, h1, List.prefix_refl _, hrel.errs ▸ h2, rfl, h3.trans hrel.ctx.symm,
    oplus_isSome_right env.ek st.alt (y := some e) rfl, halt⟩

theorem step_memoized_off (R' : Runner) (N' : NextRunner) (K' : MkRunner) (L : Nat) (env : Env) (m : Mode) (id : Nat)
    (a : G) (t : St) : step R' N' K' L (env.withMemo false) m (.memoized id a) t = R' (env.withMemo false) m a t :=
  rfl

theorem step_memoized_on (R : Runner) (N : NextRunner) (K : MkRunner) (L : Nat) (env : Env) (hon : env.memoOn = true)
    (m : Mode) (id : Nat) (a : G) (st : St) :
    step R N K L env m (.memoized id a) st =
      match memoFind st.memo (st.pos, id) with
      | some (some e) => .fail (St.addAltErr env st e.pos e.err)
      | some none => .fail (st.addAlt env [] none (env.mkSpan st.pos st.pos))
      | none =>
        match R env m a { st with memo := memoInsert st.memo (st.pos, id) none, alt := none } with
        | .panic w => .panic w
        | .oof => .oof
        | .ok v st1 => .ok v { st1 with alt := oplus env.ek st.alt st1.alt, memo := memoRemove st1.memo (st.pos, id) }
        | .fail st1 =>
          .fail { st1 with alt := oplus env.ek st.alt st1.alt, memo := memoInsert st1.memo (st.pos, id) st1.alt } := by
  simp only [step_eqs, hon, Bool.not_true, Bool.false_eq_true, if_false, readdAlt_eq]
  rfl

/-- the error the body leaves when run from an empty pending error is its contribution at that position
    (`hN`: the body's ON failure `s1` against its OFF run from `t`, offset `none`) -/
theorem contribution_of_fail {R' : Runner} {env' : Env} {a : G} (hPD : PosDetermined R' env' a) {m : Mode}
    {TI base c} {s1 t : St} {e : Loc} (ht : t.alt = none)
    (hN : MOutRel env'.ek TI none base c (.fail s1) (R' env' m a t)) (he : s1.alt = some e) :
    Contribution R' env' a t.pos e := by
  rcases hN.cases with ⟨_, _, _, h, _⟩ | ⟨_, tn, h, hrn, hfr, _⟩ | ⟨_, h, _⟩ | ⟨h, _⟩ <;> cases h
  obtain ⟨c', hc⟩ := hPD m t tn hrn
  obtain ⟨tn', hn1, _, _, hn4⟩ := hc m t rfl
  cases hrn.symm.trans hn1
  -- `some c' ≈ tn.alt ≈ s1.alt = some e`
  have h1 := hfr.alt
  rw [oplus_none_left, he] at h1
  rw [ht, oplus_none_left] at hn4
  exact hc.congr (OptLoc.equiv_trans (OptLoc.equiv_symm hn4) h1)

/-- **C11, one node.**  If the body is simulated (`hBody`: the induction hypothesis, for every offset and every pair
    of related states with a valid table), then so is `memoized id a`: ON (table consulted, pending error sheltered)
    against OFF (`a` itself), in the miss/success, miss/failure and hit cases, and the table invariant is
    re-established. -/
theorem step_memoized_transparent {R R' : Runner} {N N' : NextRunner} {K K' : MkRunner} (L : Nat)
    {env : Env} (hon : env.memoOn = true) {B : Nat → G → Prop} {Rof : Nat → Runner} {id : Nat} {a : G}
    (hRof : Rof id = R')                                                   -- this node's body runs with `R'`
    (hB : B id a) (hB1 : ∀ a', B id a' → a' = a)                          -- (i) one body per id
    (ids : Nat → Prop) (hid : ¬ ids id)                                    -- (i) `ids` = the memo ids inside `a`
    (hPD : PosDetermined R' (env.withMemo false) a)                        -- (iii)
    (m : Mode)
    (hBody : ∀ (o : Option Loc) (s t : St), MRel env.ek o s t → TableInv B Rof (env.withMemo false) s.memo →
        (∀ p i, ids i → memoFind s.memo (p, i) ≠ some none) →
        MOutRel env.ek (TableOK B Rof (env.withMemo false) s.memo) o s.errs s.ctx
          (R env m a s) (R' (env.withMemo false) m a t))                   -- (iv) the induction hypothesis
    {o : Option Loc} {st t : St} (hrel : MRel env.ek o st t)
    (hTI : TableInv B Rof (env.withMemo false) st.memo)
    (hNoProg : ∀ p, memoFind st.memo (p, id) ≠ some none)                 -- (ii) no re-entry: this node …
    (hNoProgA : ∀ p i, ids i → memoFind st.memo (p, i) ≠ some none) :     -- … and the nodes inside
    MOutRel env.ek (TableOK B Rof (env.withMemo false) st.memo) o st.errs st.ctx
      (step R N K L env m (.memoized id a) st)
      (step R' N' K' L (env.withMemo false) m (.memoized id a) t) := by
  rw [step_memoized_off, step_memoized_on R N K L env hon]
  cases hf : memoFind st.memo (st.pos, id) with
  | some v =>
    cases v with
    | none => exact absurd hf (hNoProg _)
    | some e =>
      obtain ⟨t1, h1, h2⟩ := hit_replays (R' := R') m hrel (hRof ▸ hTI _ _ _ hf a hB)
      rw [h1]
      exact ⟨h2, (addAltErr_memo env st e.pos e.err).symm ▸ ⟨hTI, fun _ h => h⟩⟩
  | none =>
    -- miss: the body runs with this node in progress and the pending error set aside
    have hNP0 : ∀ p i, ids i → memoFind (memoInsert st.memo (st.pos, id) none) (p, i) ≠ some none := by
      intro p i hi
      have hne : (p, i) ≠ (st.pos, id) := fun h => hid ((Prod.mk.inj h).2 ▸ hi)
      rw [memoFind_insert_ne _ _ _ _ hne]; exact hNoProgA p i hi
    have hTI0 := hTI.insert_none (st.pos, id)
    have h0 := hBody (oplus env.ek o st.alt) { st with memo := memoInsert st.memo (st.pos, id) none, alt := none } t
      ⟨hrel.pos, hrel.errs, hrel.insp, hrel.ctx, hrel.alt⟩ hTI0 hNP0
    rcases h0.cases with ⟨v, s1, t1, hr, hr', hm, hti, hip⟩ | ⟨s1, t1, hr, hr', hfr, hti, hip⟩ | ⟨w, hr, hr'⟩ | ⟨hr, hr'⟩ <;>
      rw [hr, hr']
    · -- t1.alt ≈ (o ⊕ old) ⊕ new ≈ o ⊕ (old ⊕ new)
      refine ⟨rfl, ⟨hm.pos, hm.errs, hm.insp, hm.ctx, ?_⟩, hti.remove _, ?_⟩
      · exact OptLoc.equiv_trans hm.alt (OptLoc.equiv_symm (oplus_assoc _ _ _ _))
      · exact hip.close (by rw [memoFind_remove_self]; exact nofun) fun _ hk => memoFind_remove_ne _ _ _ hk
    · obtain ⟨e, he⟩ := Option.isSome_iff_exists.mp hfr.some
      refine ⟨⟨hfr.errsL, hfr.errsR, hfr.ctxL, hfr.ctxR, oplus_isSome_right _ _ hfr.some, ?_⟩, ?_, ?_⟩
      · exact OptLoc.equiv_trans hfr.alt (OptLoc.equiv_symm (oplus_assoc _ _ _ _))
      · -- the stored entry is the contribution of the body: run the body (OFF) from an empty pending error
        show TableInv B Rof (env.withMemo false) (memoInsert s1.memo (st.pos, id) s1.alt)
        rw [he]
        refine hti.insert_some _ _ _ fun a' ha' => ?_
        have hN := hBody none { st with memo := memoInsert st.memo (st.pos, id) none, alt := none } { t with alt := none }
          ⟨hrel.pos, hrel.errs, hrel.insp, hrel.ctx, trivial⟩ hTI0 hNP0
        rw [hr] at hN
        rw [hB1 a' ha', hRof, hrel.pos]
        exact contribution_of_fail (t := { t with alt := none }) hPD rfl hN he
      · exact hip.close (by rw [memoFind_insert_self, he]; exact nofun) fun _ hk => memoFind_insert_ne _ _ _ _ hk
    · rfl
    · trivial

theorem MRel.refl_none (ek : ErrKind) (s : St) : MRel ek none s s :=
  ⟨rfl, rfl, rfl, rfl, OptLoc.equiv_of_eq (oplus_none_left ek s.alt).symm⟩

theorem MOutRel.plain {ek TI base c} {x y : Out} : MOutRel ek TI none base c x y →
    match x, y with
    | .ok v s, .ok v' t => v = v' ∧ s.pos = t.pos ∧ s.errs = t.errs ∧ s.insp = t.insp ∧ s.ctx = t.ctx ∧
        OptLoc.equiv s.alt t.alt
    | .fail s, .fail t => OptLoc.equiv s.alt t.alt ∧ s.alt.isSome = true ∧ base <+: s.errs ∧ base <+: t.errs ∧
        s.ctx = c ∧ t.ctx = c
    | .panic w, .panic w' => w = w'
    | .oof, .oof => True
    | _, _ => False := by
  intro h
  rcases h.cases with ⟨v, s, t, rfl, rfl, hm, _⟩ | ⟨s, t, rfl, rfl, hf, _⟩ | ⟨w, rfl, rfl⟩ | ⟨rfl, rfl⟩
  · have ha := hm.alt
    rw [oplus_none_left] at ha
    exact ⟨rfl, hm.pos, hm.errs, hm.insp, hm.ctx, OptLoc.equiv_symm ha⟩
  · have ha := hf.alt
    rw [oplus_none_left] at ha
    exact ⟨OptLoc.equiv_symm ha, hf.some, hf.errsL, hf.errsR, hf.ctxL, hf.ctxR⟩
  · rfl
  · trivial

theorem memoized_top {R R' : Runner} {N N' : NextRunner} {K K' : MkRunner} (L : Nat)
    {env : Env} (hon : env.memoOn = true) {B : Nat → G → Prop} {Rof : Nat → Runner} {id : Nat} {a : G}
    (hRof : Rof id = R') (hB : B id a) (hB1 : ∀ a', B id a' → a' = a) (ids : Nat → Prop) (hid : ¬ ids id)
    (hPD : PosDetermined R' (env.withMemo false) a) (m : Mode)
    (hBody : ∀ (o : Option Loc) (s t : St), MRel env.ek o s t → TableInv B Rof (env.withMemo false) s.memo →
        (∀ p i, ids i → memoFind s.memo (p, i) ≠ some none) →
        MOutRel env.ek (TableOK B Rof (env.withMemo false) s.memo) o s.errs s.ctx
          (R env m a s) (R' (env.withMemo false) m a t))
    (st : St) (memo' : List ((Nat × Nat) × Option Loc)) (hTI : TableInv B Rof (env.withMemo false) st.memo)
    (hNoProg : ∀ p, memoFind st.memo (p, id) ≠ some none)
    (hNoProgA : ∀ p i, ids i → memoFind st.memo (p, i) ≠ some none) :
    match step R N K L env m (.memoized id a) st,
          step R' N' K' L (env.withMemo false) m (.memoized id a) { st with memo := memo' } with
    | .ok v s, .ok v' t => v = v' ∧ s.pos = t.pos ∧ s.errs = t.errs ∧ s.insp = t.insp ∧ s.ctx = t.ctx ∧
        OptLoc.equiv s.alt t.alt
    | .fail s, .fail t => OptLoc.equiv s.alt t.alt ∧ s.alt.isSome = true ∧ st.errs <+: s.errs ∧ st.errs <+: t.errs ∧
        s.ctx = st.ctx ∧ t.ctx = st.ctx
    | .panic w, .panic w' => w = w'
    | .oof, .oof => True
    | _, _ => False :=
  (step_memoized_transparent (N := N) (N' := N') (K := K) (K' := K') (st := st) (t := { st with memo := memo' }) L hon hRof hB
    hB1 ids hid hPD m hBody ⟨rfl, rfl, rfl, rfl, OptLoc.equiv_of_eq (oplus_none_left env.ek st.alt).symm⟩ hTI hNoProg hNoProgA).plain

theorem addAlt_contrib (env : Env) (st : St) (exp : List Pat) (found : Option Nat) (span : Nat × Nat) :
    (st.addAlt env exp found span).errs = st.errs ∧ (st.addAlt env exp found span).ctx = st.ctx ∧
    OptLoc.equiv (st.addAlt env exp found span).alt
      (oplus env.ek st.alt (some ⟨st.pos, env.ek.expectedFound exp found span⟩)) := by
  refine ⟨by unfold St.addAlt; split <;> rfl, by unfold St.addAlt; split <;> rfl, ?_⟩
  by_cases he : env.ek = .empty
  · obtain ⟨toks, kind, tspans, eoi, ek, defs, memoOn⟩ := env
    cases he
    exact OptLoc.equiv_refl _
  · rw [oplus_some_of_ne he]
    exact addAlt_alt_equiv env st exp found span he

theorem tokenPrim_contribution (env : Env) (accept : Nat → Option Val) (exp : List Pat) (p : Nat)
    (h : (env.toks[p]?).bind accept = none) :
    ∃ e : Loc, ∀ (m : Mode) (t : St), t.pos = p →
      ∃ t1, tokenPrim env m t accept exp = .fail t1 ∧ t.errs <+: t1.errs ∧ t1.ctx = t.ctx ∧
        OptLoc.equiv t1.alt (oplus env.ek t.alt (some e)) := by
  cases htok : env.toks[p]? with
  | none =>
    refine ⟨⟨p, env.ek.expectedFound exp none (env.mkSpan p p)⟩, ?_⟩
    intro m t ht
    subst ht
    have hn : t.next env = (none, t) := by simp [St.next, htok]
    obtain ⟨c1, c2, c3⟩ := addAlt_contrib env (t.rewind t.save) exp none (env.mkSpan t.pos t.pos)
    refine ⟨(t.rewind t.save).addAlt env exp none (env.mkSpan t.pos t.pos), ?_, ?_, c2, c3⟩
    · simp [tokenPrim, hn, St.save]
    · rw [c1]; simp [St.rewind, St.save]
  | some x =>
    rw [htok] at h
    have hx : accept x = none := h
    refine ⟨⟨p, env.ek.expectedFound exp (some x) (env.mkSpan p (p + 1))⟩, ?_⟩
    intro m t ht
    subst ht
    have hn : t.next env = (some x, { t with pos := t.pos + 1, insp := t.insp ++ [x] }) := by simp [St.next, htok]
    obtain ⟨c1, c2, c3⟩ := addAlt_contrib env (({ t with pos := t.pos + 1, insp := t.insp ++ [x] } : St).rewind t.save)
      exp (some x) (env.mkSpan t.pos (t.pos + 1))
    refine ⟨(({ t with pos := t.pos + 1, insp := t.insp ++ [x] } : St).rewind t.save).addAlt env exp (some x)
      (env.mkSpan t.pos (t.pos + 1)), ?_, ?_, c2, c3⟩
    · simp [tokenPrim, hn, St.save, hx]
    · rw [c1]; simp [St.rewind, St.save]

theorem posDetermined_oneOf (R : Runner) (N : NextRunner) (K : MkRunner) (L : Nat) (env : Env) (ts : List Nat) :
    PosDetermined (step R N K L) env (.oneOf ts) := by
  intro m t t1 hfail
  have hstep : ∀ m t, step R N K L env m (.oneOf ts) t =
      tokenPrim env m t (fun x => if ts.contains x then some (.tok x) else none) (ts.map .tok) := fun _ _ => rfl
  have hb : (env.toks[t.pos]?).bind (fun x => if ts.contains x then some (Val.tok x) else none) = none := by
    rw [hstep] at hfail
    cases htok : env.toks[t.pos]? with
    | none => rfl
    | some x =>
      by_cases hc : x ∈ ts
      · simp [tokenPrim, St.next, htok, hc] at hfail
      · simp [hc]
  obtain ⟨e, he⟩ := tokenPrim_contribution env _ (ts.map .tok) t.pos hb
  exact ⟨e, fun m' t' ht' => by rw [hstep]; exact he m' t' ht'⟩

/-- `some true` = an output was produced, `some false` = none, `none` = panic / out of fuel -/
def TopOut.accepted : TopOut → Option Bool
  | .result r _ => some r.output.isSome
  | _ => none

def TopOut.errSpans : TopOut → List (Nat × Nat)
  | .result r _ => r.errs.map (·.span)
  | _ => []

/-- (iii) a context-sensitive body: `just(..).configure(|cfg, ctx| cfg.seq(ctx))` memoized once, used under two
    contexts at the same position.  The failure recorded under the first context is replayed under the second:
    ON rejects the input `[2]`, OFF accepts it. -/
theorem cex_ctx :
    let defs : List G := [.memoized 1 (.configureJust .seqFromCtx [])]
    let g : G := .choice .tuple [.withCtx (.toks [1]) (.call 0), .withCtx (.toks [2]) (.call 0)]
    (parseTop 20 { toks := [2], defs := defs, memoOn := true } .emit g).accepted = some false ∧
    (parseTop 20 { toks := [2], defs := defs, memoOn := false } .emit g).accepted = some true := by
  decide +kernel

/-- (i) two different bodies under one id (cf. D9/D10: the key of the library is the address of a field) -/
theorem cex_sameId :
    let g : G := .or_ (.memoized 1 (.just [1])) (.memoized 1 (.just [2]))
    (parseTop 20 { toks := [2], memoOn := true } .emit g).accepted = some false ∧
    (parseTop 20 { toks := [2], memoOn := false } .emit g).accepted = some true := by
  decide +kernel

/-- (ii) left recursion `e := memoized(e 1 | 2)`: ON cuts the re-entry and parses `[2]`, OFF never terminates
    (out of fuel at every fuel; shown for 30) -/
theorem cex_leftRec :
    let defs : List G := [.memoized 1 (.or_ (.then_ (.call 0) (.just [1])) (.just [2]))]
    (parseTop 30 { toks := [2], defs := defs, memoOn := true } .emit (.call 0)).accepted = some true ∧
    parseTop 30 { toks := [2], defs := defs, memoOn := false } .emit (.call 0) = .oof := by
  decide +kernel

/-- (iv) a recovery strategy under `memoized`: recovery emits the pending error, which ON has sheltered.  Both runs
    accept `[1, 2]` with one secondary error, but not the same one. -/
theorem cex_recovery :
    let g : G := .or_ (.then_ .any (.just [5])) (.memoized 1 (.recoverVia (.just [7]) (.then_ .any .any)))
    (parseTop 30 { toks := [1, 2], memoOn := true } .emit g).errSpans = [(0, 1)] ∧
    (parseTop 30 { toks := [1, 2], memoOn := false } .emit g).errSpans = [(1, 2)] := by
  decide +kernel

/-- with `call`, a hit saves fuel: the same node is reached at two depths, the second time ON replays the stored
    failure while OFF has to re-run the body one level deeper.  At fuel 7 ON has finished, OFF has not (at fuel 8
    both have, with the same result).  So across `call` the comparison cannot be "at the same fuel". -/
theorem cex_fuel :
    let defs : List G := [.memoized 1 (.just [1])]
    let g : G := .or_ (.call 0) (.boxed (.boxed (.boxed (.call 0))))
    (parseTop 7 { toks := [2], defs := defs, memoOn := true } .emit g).accepted = some false ∧
    parseTop 7 { toks := [2], defs := defs, memoOn := false } .emit g = .oof ∧
    (parseTop 8 { toks := [2], defs := defs, memoOn := false } .emit g).accepted = some false := by
  decide +kernel

#print axioms oplus_assoc
#print axioms hit_replays
#print axioms step_memoized_transparent
#print axioms memoized_top
#print axioms posDetermined_oneOf
#print axioms cex_ctx
#print axioms cex_sameId
#print axioms cex_leftRec
#print axioms cex_recovery
#print axioms cex_fuel
end Chumsky
