/-
  The one-extension machines are instances of the unified one: `runX` / `pegX` (a single Pratt table) and `runH` / `pegH`
  (a single nested parser) are `runE` / `pegE` with a one-element extension list based at the hole — so every theorem about
  `EEnv` specialises to them by rewriting with the equations below.
-/
import ChumskyModel.Model.Ext
import ChumskyModel.Proofs.Lemmas.StepEqns
namespace Chumsky

theorem EEnv.find_mem {e : EEnv} {g : G} {x : Ext} (h : e.find g = some x) : x ∈ e.exts := by
  cases g <;> simp [EEnv.find] at h
  exact List.mem_of_getElem? h.2

def XEnv.toE (x : XEnv) : EEnv := { base := x.hole, exts := [.pratt x.atom x.ops] }
def HEnv.toE (h : HEnv) : EEnv := { base := h.hole, exts := [.nested h.a h.b], groups := h.groups, gap := h.gap }

/-- in a one-element extension list based at `base` only `.call base` is an extension reference -/
theorem getElem?_single_sub {α} (x : α) (base k : Nat) :
    (if base ≤ k then [x][k - base]? else none) = if (k == base) = true then some x else none := by
  by_cases h : k = base
  · subst h; simp
  · have hb : (k == base) = false := by simpa using h
    rw [hb]
    split
    · exact List.getElem?_eq_none (by simp only [List.length_singleton]; omega)
    · rfl

theorem XEnv.find_toE (x : XEnv) (g : G) :
    x.toE.find g = if x.isHole g then some (.pratt x.atom x.ops) else none := by
  cases g <;> first | rfl | exact getElem?_single_sub _ _ _

theorem HEnv.find_toE (h : HEnv) (g : G) :
    h.toE.find g = if h.isHole g then some (.nested h.a h.b) else none := by
  cases g <;> first | rfl | exact getElem?_single_sub _ _ _

theorem runX_eq_runE (x : XEnv) (n : Nat) :
    runX x n = runE x.toE n ∧ nextX x n = nextE x.toE n ∧ mkIterX x n = mkIterE x.toE n := by
  induction n with
  | zero => exact ⟨rfl, rfl, rfl⟩
  | succ n ih =>
    obtain ⟨hR, hN, hK⟩ := ih
    refine ⟨?_, by simp only [nextX, nextE, hR, hN, hK], by simp only [mkIterX, mkIterE, hR, hK]⟩
    funext env m g st
    simp only [runX, runE, XEnv.find_toE, hR, hN, hK]
    cases x.isHole g <;> rfl

theorem pegX_eq_pegE (x : XEnv) (n : Nat) :
    pegX x n = pegE x.toE n ∧ pegNextX x n = pegNextE x.toE n ∧ pegMkX x n = pegMkE x.toE n := by
  induction n with
  | zero => exact ⟨rfl, rfl, rfl⟩
  | succ n ih =>
    obtain ⟨hP, hN, hK⟩ := ih
    refine ⟨?_, by simp only [pegNextX, pegNextE, hP, hN, hK], by simp only [pegMkX, pegMkE, hP, hK]⟩
    funext env g s ctx
    simp only [pegX, pegE, XEnv.find_toE, hP, hN, hK]
    cases x.isHole g <;> rfl

/- `nestedStepM` / `nestedStepS` read `a`, `b`, the group table and the gap of their `HEnv`, not the hole index, so the
   `HEnv` that `EEnv.henv` builds (hole `0`) does as well as `h` itself: the `rfl`s below see through it. -/

theorem runH_eq_runE (h : HEnv) (n : Nat) :
    runH h n = runE h.toE n ∧ nextH h n = nextE h.toE n ∧ mkIterH h n = mkIterE h.toE n := by
  induction n with
  | zero => exact ⟨rfl, rfl, rfl⟩
  | succ n ih =>
    obtain ⟨hR, hN, hK⟩ := ih
    refine ⟨?_, by simp only [nextH, nextE, hR, hN, hK], by simp only [mkIterH, mkIterE, hR, hK]⟩
    funext env m g st
    simp only [runH, runE, HEnv.find_toE, hR, hN, hK]
    cases h.isHole g <;> rfl

theorem pegH_eq_pegE (h : HEnv) (n : Nat) :
    pegH h n = pegE h.toE n ∧ pegNextH h n = pegNextE h.toE n ∧ pegMkH h n = pegMkE h.toE n := by
  induction n with
  | zero => exact ⟨rfl, rfl, rfl⟩
  | succ n ih =>
    obtain ⟨hP, hN, hK⟩ := ih
    refine ⟨?_, by simp only [pegNextH, pegNextE, hP, hN, hK], by simp only [pegMkH, pegMkE, hP, hK]⟩
    funext env g s ctx
    simp only [pegH, pegE, HEnv.find_toE, hP, hN, hK]
    cases h.isHole g <;> rfl

/-! the top level: `parse` / `check` and their reading -/

theorem parseTopE_eq_top (e : EEnv) (n : Nat) (env : Env) (m : Mode) (g : G) :
    parseTopE e n env m g = (runE e n env m (.thenIgnore g .end_) St.init).top env := by
  rw [parseTopE]; cases runE e n env m (.thenIgnore g .end_) St.init <;> rfl

theorem parseTopX_eq (x : XEnv) (n : Nat) (env : Env) (m : Mode) :
    parseTopX x n env m = parseTopE x.toE n env m (.call x.hole) := by
  rw [parseTopX, (runX_eq_runE x n).1]; rfl

theorem pegTopX_eq (x : XEnv) (n : Nat) (env : Env) : pegTopX x n env = pegTopE x.toE n env (.call x.hole) := by
  rw [pegTopX, (pegX_eq_pegE x n).1]; rfl

theorem parseTopH_eq (h : HEnv) (n : Nat) (env : Env) (m : Mode) (g : G) :
    parseTopH h n env m g = parseTopE h.toE n env m g := by
  rw [parseTopH, (runH_eq_runE h n).1]; rfl

theorem pegTopH_eq (h : HEnv) (n : Nat) (env : Env) (g : G) : pegTopH h n env g = pegTopE h.toE n env g := by
  rw [pegTopH, (pegH_eq_pegE h n).1]; rfl

end Chumsky
