/-
  The refinement relation between the machine and the PEG reading (induction I1), and the generic
  lemmas used by every constructor case: case analysis on related outcomes (`Refines.cases` and its
  iterator analogues), what a run in progress has reported (`Emitted`), sequencing (`Refines.bind`).
-/
import ChumskyModel.Proofs.Lemmas.StateOps
namespace Chumsky

/-- a reported error matches an emission of the spec. Of a recovered error only the position is related: the reading has no
    pending error, so which error a recovery reports is not its business (C06 / C08 say which: `c08_recovered_error_is_pending`) -/
def EmRel (l : Loc) : Emis → Prop
  | .user u => l = u
  | .recovered p => l.pos = p

def EmsRel : List Loc → List Emis → Prop
  | [], [] => True
  | l :: ls, e :: es => EmRel l e ∧ EmsRel ls es
  | _, _ => False

@[simp] theorem EmsRel.nil : EmsRel [] [] := trivial

theorem EmsRel.nil_right {a : List Loc} (h : EmsRel a []) : a = [] :=
  match a, h with
  | [], _ => rfl

theorem EmsRel.append {a b : List Loc} {x y : List Emis} (h1 : EmsRel a x) (h2 : EmsRel b y) :
    EmsRel (a ++ b) (x ++ y) :=
  match a, x, h1 with
  | [], [], _ => h2
  | _ :: _, _ :: _, h1 => ⟨h1.1, h1.2.append h2⟩

theorem EmsRel.length {a : List Loc} {x : List Emis} (h : EmsRel a x) : a.length = x.length :=
  match a, x, h with
  | [], [], _ => rfl
  | _ :: _, _ :: _, h => congrArg (· + 1) h.2.length

/-- the abstract position of a machine state -/
def St.ss (st : St) : SS := ⟨st.pos, st.insp⟩

@[simp] theorem ss_pos (st : St) : st.ss.pos = st.pos := rfl
@[simp] theorem ss_insp (st : St) : st.ss.insp = st.insp := rfl

/-- relation between a successful machine result and a successful spec result;
    `base` = the secondary errors at the point emissions are measured from, `ctx` = the caller's context -/
structure OkRel (m : Mode) (base : List Loc) (ctx : Val) (v : Val) (st' : St) (v' : Val) (s' : SS)
    (em : List Emis) : Prop where
  val : v = m.bind v'
  ss : st'.ss = s'
  errs : ∃ new, st'.errs = base ++ new ∧ EmsRel new em
  ctx : st'.ctx = ctx

/-- what a failing machine result must satisfy (nothing is said about `pos`/`insp`: callers rewind). `alt`: a failure leaves a
    pending error — what makes the `take_alt().unwrap()`s of recovery and `map_err` unreachable inside the induction, and C20's
    "a failure is always reported" outside it (`Refines.fail_alt`) -/
structure FailRel (base : List Loc) (ctx : Val) (st' : St) : Prop where
  errs : base <+: st'.errs
  ctx : st'.ctx = ctx
  alt : st'.alt.isSome = true

def Refines (m : Mode) (base : List Loc) (ctx : Val) : Out → SOut → Prop
  | .ok v st', .ok v' s' em => OkRel m base ctx v st' v' s' em
  | .fail st', .fail => FailRel base ctx st'
  | .panic w, .panic w' => w = w'
  | .oof, .oof => True
  | _, _ => False

@[simp] theorem failRel_iff {base ctx st'} : Refines m base ctx (.fail st') .fail ↔ FailRel base ctx st' := Iff.rfl
@[simp] theorem okRel_iff {m base ctx v st' v' s' em} :
    Refines m base ctx (.ok v st') (.ok v' s' em) ↔ OkRel m base ctx v st' v' s' em := Iff.rfl
@[simp] theorem refines_ok_fail {m base ctx v st'} : Refines m base ctx (.ok v st') .fail ↔ False := Iff.rfl
@[simp] theorem refines_fail_ok {m base ctx st' v' s' em} : Refines m base ctx (.fail st') (.ok v' s' em) ↔ False := Iff.rfl

/-- Case analysis on related outcomes: they have the same shape, so a goal about both (typically a `match` on each)
    has four cases instead of sixteen. The reading's position is given as that of the machine state. -/
@[elab_as_elim]
theorem Refines.cases {m base ctx} {motive : Out → SOut → Prop} {o : Out} {so : SOut} (h : Refines m base ctx o so)
    (ok : ∀ v st' v' em, OkRel m base ctx v st' v' st'.ss em → motive (.ok v st') (.ok v' st'.ss em))
    (fail : ∀ st', FailRel base ctx st' → motive (.fail st') .fail)
    (panic : ∀ w, motive (.panic w) (.panic w)) (oof : motive .oof .oof) : motive o so := by
  cases o <;> cases so <;> try exact False.elim h
  · cases h.ss; exact ok _ _ _ _ h
  · exact fail _ h
  · cases h; exact panic _
  · exact oof

theorem Refines.failRel {m base ctx st' so} (h : Refines m base ctx (.fail st') so) : FailRel base ctx st' := by
  cases so <;> first | exact False.elim h | exact h

theorem Refines.fail_alt {m base ctx st' so} (h : Refines m base ctx (.fail st') so) : st'.alt.isSome = true :=
  h.failRel.alt

theorem Refines.panic_eq {m base ctx w so} (h : Refines m base ctx (.panic w) so) : so = .panic w := by
  cases so <;> first | exact False.elim h | exact congrArg _ (Eq.symm h)

/-- hypotheses on the runners (the induction hypothesis of I1). `memoOn = false`: `memoized()` nodes are read as the identity;
    with the table on, a hit answers without running the body, which the reading knows nothing about (C11 relates the two) -/
def RunnerRefines (R : Runner) (P : SRunner) : Prop :=
  ∀ env m g st, env.memoOn = false → Refines m st.errs st.ctx (R env m g st) (P env g st.ss st.ctx)

@[simp] theorem bind_check (v : Val) : Mode.check.bind v = .unit := rfl
@[simp] theorem bind_emit (v : Val) : Mode.emit.bind v = v := rfl
@[simp] theorem bind_bind (m : Mode) (v : Val) : m.bind (m.bind v) = m.bind v := by cases m <;> rfl
theorem bind_unit (m : Mode) : m.bind .unit = .unit := by cases m <;> rfl

theorem bind_congr {m : Mode} {v v' : Val} (h : v = m.bind v') (f : Val → Val) : m.bind (f v) = m.bind (f v') := by
  subst h; cases m <;> rfl

/-- a value the machine computes in emit mode only -/
theorem bind_match {m : Mode} {a b : Val} (h : m = .emit → a = b) :
    (match (generalizing := false) m with | .emit => a | .check => .unit) = m.bind b := by
  cases m
  · exact h rfl
  · rfl

theorem bind_map {m : Mode} {v v' : Val} (h : v = m.bind v') (f : Val → Val) :
    (match (generalizing := false) m with | .emit => f v | .check => .unit) = m.bind (f v') :=
  bind_match fun he => by subst he; exact congrArg f h

theorem bind_pair {m : Mode} {va va' vb vb' : Val} (h1 : va = m.bind va') (h2 : vb = m.bind vb') :
    m.bind (.pair va vb) = m.bind (.pair va' vb') :=
  (bind_congr h1 (.pair · vb)).trans (bind_congr h2 (.pair va' ·))

theorem OkRel.mono {m' m : Mode} {base ctx v st2 v' s2 e2}
    (h2 : OkRel m' base ctx v st2 v' s2 e2) {w w' : Val}
    (hv : w = m.bind w') : OkRel m base ctx w st2 w' s2 e2 :=
  ⟨hv, h2.ss, h2.errs, h2.ctx⟩

/-- `errs` is `base` followed by what the reading emitted as `em`: the `errs` field of `OkRel`, and what the loops
    carry along about their state (together with its context). Stated of the list, not of the state, so that it
    survives whatever is done to the other fields. -/
def Emitted (base errs : List Loc) (em : List Emis) : Prop := ∃ new, errs = base ++ new ∧ EmsRel new em

theorem Emitted.refl (l : List Loc) : Emitted l l [] := ⟨[], (List.append_nil _).symm, trivial⟩

theorem Emitted.prefix (h : Emitted base errs em) : base <+: errs := by
  obtain ⟨new, he, _⟩ := h
  exact he ▸ List.prefix_append _ _

theorem Emitted.rebase {base new1 errs : List Loc} {e1 e2 : List Emis} (hr1 : EmsRel new1 e1)
    (h : Emitted (base ++ new1) errs e2) : Emitted base errs (e1 ++ e2) := by
  obtain ⟨new2, he2, hr2⟩ := h
  exact ⟨new1 ++ new2, by rw [he2, List.append_assoc], hr1.append hr2⟩

theorem Emitted.trans (h1 : Emitted base mid e1) (h2 : Emitted mid errs e2) :
    Emitted base errs (e1 ++ e2) := by
  obtain ⟨new1, rfl, hr1⟩ := h1
  exact h2.rebase hr1

theorem OkRel.emitted {m base ctx v st' v' s' em} (h : OkRel m base ctx v st' v' s' em) : Emitted base st'.errs em :=
  h.errs

theorem rewind_errs_of_prefix {st st' : St} (hp : st.errs <+: st'.errs) : (st'.rewind st.save).errs = st.errs := by
  rw [rewind_errs, save_errCount, take_of_prefix hp]

theorem FailRel.rewind_emitted {base ctx em} {st st' : St} (hf : FailRel st.errs ctx st')
    (he : Emitted base st.errs em) : Emitted base (st'.rewind st.save).errs em :=
  (rewind_errs_of_prefix hf.errs).symm ▸ he

theorem FailRel.rewind {ctx} {st st' : St} (hf : FailRel st.errs ctx st') :
    FailRel st.errs ctx (st'.rewind st.save) :=
  ⟨(hf.rewind_emitted (.refl _)).prefix, hf.ctx, hf.alt⟩

theorem FailRel.rewind_ok {m base ctx em v v'} {st st' : St} (hf : FailRel st.errs ctx st')
    (he : Emitted base st.errs em) (hv : v = m.bind v') : OkRel m base ctx v (st'.rewind st.save) v' st.ss em :=
  ⟨hv, rfl, hf.rewind_emitted he, hf.ctx⟩

theorem FailRel.mono {base base' ctx st'} (h : FailRel base' ctx st') (hp : base <+: base') : FailRel base ctx st' :=
  ⟨hp.trans h.errs, h.ctx, h.alt⟩

theorem Refines.bind0 {k : Val → St → Out} {sk : Val → SS → List Emis → SOut} (h : Refines m' base ctx o so)
    (hk : ∀ v st1 v' e1, OkRel m' base ctx v st1 v' st1.ss e1 → Refines m base ctx (k v st1) (sk v' st1.ss e1)) :
    Refines m base ctx (o.andThen k) (so.andThen sk) :=
  h.cases hk (fun _ hf => hf) (fun _ => rfl) trivial

theorem Refines.bind {k : Val → St → Out} {sk : Val → SS → List Emis → SOut}
    (he : Emitted base errs e1) (h : Refines m' errs ctx o so)
    (hk : ∀ v st2 v' e2, OkRel m' base ctx v st2 v' st2.ss (e1 ++ e2) → Refines m base ctx (k v st2) (sk v' st2.ss e2)) :
    Refines m base ctx (o.andThen k) (so.andThen sk) :=
  h.cases (fun _ _ _ _ h2 => hk _ _ _ _ ⟨h2.val, rfl, he.trans h2.emitted, h2.ctx⟩) (fun _ hf => hf.mono he.prefix)
    (fun _ => rfl) trivial

theorem RunnerRefines.sub {R : Runner} {P : SRunner} (hR : RunnerRefines R P) {env : Env} (hm : env.memoOn = false)
    (m : Mode) (g : G) (st : St) {ctx : Val} (hc : st.ctx = ctx) :
    Refines m st.errs ctx (R env m g st) (P env g st.ss ctx) :=
  hc ▸ hR env m g st hm

theorem RunnerRefines.bind {R : Runner} {P : SRunner} (hR : RunnerRefines R P) {env : Env} (hm : env.memoOn = false)
    (h1 : OkRel m1 base ctx v1 st1 v1' st1.ss e1) (m' : Mode) (g : G)
    {k : Val → St → Out} {sk : Val → SS → List Emis → SOut}
    (hk : ∀ v st2 v' e2, OkRel m' base ctx v st2 v' st2.ss (e1 ++ e2) → Refines m base ctx (k v st2) (sk v' st2.ss e2)) :
    Refines m base ctx ((R env m' g st1).andThen k) ((P env g st1.ss ctx).andThen sk) :=
  Refines.bind h1.emitted (hR.sub hm m' g st1 h1.ctx) hk

/-- relation between the iterator protocol results -/
structure DoneRel (base : List Loc) (ctx : Val) (st' : St) (ist' : ItSt) (s' : SS) (ist'' : ItSt)
    (em : List Emis) : Prop where
  ss : st'.ss = s'
  errs : ∃ new, st'.errs = base ++ new ∧ EmsRel new em
  ctx : st'.ctx = ctx
  ist : ist' = ist''

def RefinesIt (m : Mode) (base : List Loc) (ctx : Val) : ItOut → SItOut → Prop
  | .some v st' i', .some v' s' i'' em => OkRel m base ctx v st' v' s' em ∧ i' = i''
  | .done st' i', .done s' i'' em => DoneRel base ctx st' i' s' i'' em
  | .fail st', .fail => FailRel base ctx st'
  | .panic w, .panic w' => w = w'
  | .oof, .oof => True
  | _, _ => False

def RefinesMk (base : List Loc) (ctx : Val) : MkOut → SMkOut → Prop
  | .ok i' st', .ok i'' s' em => DoneRel base ctx st' i' s' i'' em
  | .fail st', .fail => FailRel base ctx st'
  | .panic w, .panic w' => w = w'
  | .oof, .oof => True
  | _, _ => False

@[simp] theorem refinesMk_ok {base ctx i st' i' s' em} :
    RefinesMk base ctx (.ok i st') (.ok i' s' em) ↔ DoneRel base ctx st' i s' i' em := Iff.rfl
@[simp] theorem refinesMk_fail {base ctx st'} : RefinesMk base ctx (.fail st') .fail ↔ FailRel base ctx st' := Iff.rfl

@[simp] theorem refinesIt_some {m base ctx v st' i v' s' i' em} :
    RefinesIt m base ctx (.some v st' i) (.some v' s' i' em) ↔ (OkRel m base ctx v st' v' s' em ∧ i = i') := Iff.rfl
@[simp] theorem refinesIt_done {m base ctx st' i s' i' em} :
    RefinesIt m base ctx (.done st' i) (.done s' i' em) ↔ DoneRel base ctx st' i s' i' em := Iff.rfl
@[simp] theorem refinesIt_fail {m base ctx st'} : RefinesIt m base ctx (.fail st') .fail ↔ FailRel base ctx st' := Iff.rfl

theorem FailRel.rewind_done {base ctx em} {st st' : St} (hf : FailRel st.errs ctx st')
    (he : Emitted base st.errs em) (i : ItSt) : DoneRel base ctx (st'.rewind st.save) i st.ss i em :=
  ⟨rfl, hf.rewind_emitted he, hf.ctx, rfl⟩

theorem DoneRel.emitted {base ctx st' i s' i' em} (h : DoneRel base ctx st' i s' i' em) : Emitted base st'.errs em :=
  h.errs

@[elab_as_elim]
theorem RefinesIt.cases {m base ctx} {motive : ItOut → SItOut → Prop} {o : ItOut} {so : SItOut}
    (h : RefinesIt m base ctx o so)
    (some : ∀ v st' i v' em, OkRel m base ctx v st' v' st'.ss em → motive (.some v st' i) (.some v' st'.ss i em))
    (done : ∀ st' i em, DoneRel base ctx st' i st'.ss i em → motive (.done st' i) (.done st'.ss i em))
    (fail : ∀ st', FailRel base ctx st' → motive (.fail st') .fail)
    (panic : ∀ w, motive (.panic w) (.panic w)) (oof : motive .oof .oof) : motive o so := by
  cases o <;> cases so <;> try exact False.elim h
  · cases h.1.ss; cases h.2; exact some _ _ _ _ _ h.1
  · cases h.ss; cases h.ist; exact done _ _ _ h
  · exact fail _ h
  · cases h; exact panic _
  · exact oof

@[elab_as_elim]
theorem RefinesMk.cases {base ctx} {motive : MkOut → SMkOut → Prop} {o : MkOut} {so : SMkOut}
    (h : RefinesMk base ctx o so)
    (ok : ∀ i st' em, DoneRel base ctx st' i st'.ss i em → motive (.ok i st') (.ok i st'.ss em))
    (fail : ∀ st', FailRel base ctx st' → motive (.fail st') .fail)
    (panic : ∀ w, motive (.panic w) (.panic w)) (oof : motive .oof .oof) : motive o so := by
  cases o <;> cases so <;> try exact False.elim h
  · cases h.ss; cases h.ist; exact ok _ _ _ h
  · exact fail _ h
  · cases h; exact panic _
  · exact oof

def NextRefines (N : NextRunner) (SN : SNextRunner) : Prop :=
  ∀ env m it st ist, env.memoOn = false →
    RefinesIt m st.errs st.ctx (N env m it st ist) (SN env it st.ss st.ctx ist)

def MkRefines (K : MkRunner) (SK : SMkRunner) : Prop :=
  ∀ env m it st, env.memoOn = false → RefinesMk st.errs st.ctx (K env m it st) (SK env it st.ss st.ctx)

theorem NextRefines.sub {N : NextRunner} {SN : SNextRunner} (hN : NextRefines N SN) {env : Env}
    (hm : env.memoOn = false) (m : Mode) (it : It) (st : St) (ist : ItSt) {ctx : Val} (hc : st.ctx = ctx) :
    RefinesIt m st.errs ctx (N env m it st ist) (SN env it st.ss ctx ist) :=
  hc ▸ hN env m it st ist hm

theorem MkRefines.sub {K : MkRunner} {SK : SMkRunner} (hK : MkRefines K SK) {env : Env}
    (hm : env.memoOn = false) (m : Mode) (it : It) (st : St) {ctx : Val} (hc : st.ctx = ctx) :
    RefinesMk st.errs ctx (K env m it st) (SK env it st.ss ctx) :=
  hc ▸ hK env m it st hm

/-! ### what a refinement says about one run, whichever machine made it -/

/-- secondary errors and inspector (C05): on success the caller's errors extended by exactly the emissions of the surviving
    path, the reading's position and inspector; on failure the caller's errors still a prefix -/
theorem Refines.atomic {m : Mode} {base : List Loc} {ctx : Val} {o : Out} {so : SOut} : Refines m base ctx o so →
    match o, so with
    | .ok _ st', .ok _ s' em => (∃ new, st'.errs = base ++ new ∧ EmsRel new em) ∧ st'.ss = s'
    | .fail st', .fail => base <+: st'.errs
    | .panic w, .panic w' => w = w'
    | .oof, .oof => True
    | _, _ => False := by
  cases o <;> cases so <;> intro h <;> first | exact h | exact ⟨h.errs, h.ss⟩ | exact h.errs

/-- the caller's context is handed back, on success and on failure (C15) -/
theorem Refines.ctx_restored {m : Mode} {base : List Loc} {ctx : Val} {o : Out} {so : SOut} : Refines m base ctx o so →
    match o with
    | .ok _ st' => st'.ctx = ctx
    | .fail st' => st'.ctx = ctx
    | _ => True := by
  cases o <;> cases so <;> intro h <;> first | trivial | exact False.elim h | exact h.ctx

/-- the machine's inspector and position are the reading's (C18) -/
theorem Refines.inspector {m : Mode} {base : List Loc} {ctx : Val} {o : Out} {so : SOut} : Refines m base ctx o so →
    match o, so with
    | .ok _ st', .ok _ s' _ => st'.insp = s'.insp ∧ st'.pos = s'.pos
    | .ok _ _, _ => False
    | _, _ => True := by
  cases o <;> cases so <;> intro h <;> first | trivial | exact False.elim h | exact h.ss ▸ ⟨rfl, rfl⟩

end Chumsky
