/-
  Proofs/Lemmas/NecClass.lean — the syntactic class `nec`: no `choice` over an empty slice.

  Inside the class `c06` it is the one place where a failure is recorded with `found = None` whatever the
  cursor sees, so the invariants that say what `found` is (`ErrWf.lean`) hold for `c06 ∧ nec` only.
-/
import ChumskyModel.Model.Machine
namespace Chumsky

def necChoice : ChoiceFlavour → Bool → Bool
  | .slice, true => false
  | _, _ => true

mutual
/-- `false` exactly when `.choice .slice []` occurs anywhere inside: `choice` over an empty `Vec` / slice records
    `found = None` at the current position even in the middle of the input -/
def G.nec : G → Bool
  | .end_ => true
  | .empty => true
  | .any => true
  | .just _ => true
  | .oneOf _ => true
  | .noneOf _ => true
  | .select _ => true
  | .custom _ => true
  | .todo => true
  | .then_ a b => a.nec && b.nec
  | .ignoreThen a b => a.nec && b.nec
  | .thenIgnore a b => a.nec && b.nec
  | .delimitedBy a l r => a.nec && (l.nec && r.nec)
  | .paddedBy a p => a.nec && p.nec
  | .group gs => necL gs
  | .groupArr gs => necL gs
  | .or_ a b => a.nec && b.nec
  | .choice fl gs => necChoice fl gs.isEmpty && necL gs
  | .orNot a => a.nec
  | .not_ a => a.nec
  | .andIs a b => a.nec && b.nec
  | .rewind a => a.nec
  | .map _ a => a.nec
  | .to _ a => a.nec
  | .ignored a => a.nec
  | .filter _ a => a.nec
  | .tryMap _ a => a.nec
  | .tryMapWith _ a => a.nec
  | .toSpan a => a.nec
  | .toSlice a => a.nec
  | .mapWithSpan a => a.nec
  | .mapWithState a => a.nec
  | .mapWithCtx a => a.nec
  | .validate _ a => a.nec
  | .collect _ it => it.nec
  | .collectExactly _ it => it.nec
  | .foldl _ a it => a.nec && it.nec
  | .foldr _ it b => it.nec && b.nec
  | .foldlWith a it => a.nec && it.nec
  | .foldrWith it b => it.nec && b.nec
  | .iterP it => it.nec
  | .recoverVia a r => a.nec && r.nec
  | .recoverSkipUntil a s u _ => a.nec && (s.nec && u.nec)
  | .recoverSkipRetry a s u => a.nec && (s.nec && u.nec)
  | .labelled _ _ a => a.nec
  | .mapErr _ a => a.nec
  | .withCtx _ a => a.nec
  | .ignoreWithCtx a b => a.nec && b.nec
  | .thenWithCtx a b => a.nec && b.nec
  | .mapCtx _ a => a.nec
  | .configureJust _ _ => true
  | .withState a => a.nec
  | .memoized _ a => a.nec
  | .call _ => true
  | .boxed a => a.nec
def It.nec : It → Bool
  | .repeated a _ _ => a.nec
  | .separatedBy a sep _ _ _ _ => a.nec && sep.nec
  | .enumerate it => it.nec
  | .orNotIt a => a.nec
  | .intoIter a => a.nec
  | .thenIt a b => a.nec && b.nec
  | .mapIt _ it => it.nec
  | .configureRep _ it => it.nec
  | .tryConfigureRep _ it => it.nec
def necL : List G → Bool
  | [] => true
  | g :: gs => g.nec && necL gs
end

end Chumsky
