/-
  Proofs/Lemmas/Summ.lean — the algebra of the pending ("alt") error, independent of any grammar.

  * `foldAlt` / `summ`: the pending error after a sequence of failure events
  * A. positions: the result sits exactly at the furthest event
  * B. `equiv` ("same description") is an equivalence and a congruence for `merge`, `mergeAlt`, `foldAlt`;
       the `add_alt` fast paths agree with the generic rule up to `equiv`
  * C. re-adding a summary = replaying the events (`mergeAlt_summ`)
  * D. characterisation of the summary for `Rich`
-/
import ChumskyModel.Proofs.Lemmas.StateOps
namespace Chumsky

/-- the pending error after a sequence of failure events, starting from `alt` -/
def foldAlt (ek : ErrKind) (alt : Option Loc) (evs : List Loc) : Option Loc :=
  evs.foldl (fun a ev => St.mergeAlt ek a ev.pos ev.err) alt
/-- summary of a list of failure events -/
def summ (ek : ErrKind) (evs : List Loc) : Option Loc := foldAlt ek none evs

/-- "same description": same span, same kind of reason, same custom message / same *set* of expected patterns
    (order and duplicates of `expected`, `found` and the context list are ignored) -/
def Reason.equiv : Reason → Reason → Prop
  | .custom m, .custom m' => m = m'
  | .ef e _, .ef e' _ => ∀ p, p ∈ e ↔ p ∈ e'
  | _, _ => False
def Err.equiv (a b : Err) : Prop := a.span = b.span ∧ a.reason.equiv b.reason
def Loc.equiv (a b : Loc) : Prop := a.pos = b.pos ∧ a.err.equiv b.err
def OptLoc.equiv : Option Loc → Option Loc → Prop
  | none, none => True
  | some a, some b => a.equiv b
  | _, _ => False

/-! ## A. positions -/

@[simp] theorem foldAlt_nil (ek : ErrKind) (alt : Option Loc) : foldAlt ek alt [] = alt := rfl
@[simp] theorem foldAlt_cons (ek : ErrKind) (alt : Option Loc) (x : Loc) (xs : List Loc) :
    foldAlt ek alt (x :: xs) = foldAlt ek (St.mergeAlt ek alt x.pos x.err) xs := rfl

theorem mergeAlt_none (ek : ErrKind) (at_ : Nat) (e : Err) :
    St.mergeAlt ek none at_ e = some ⟨at_, e⟩ := rfl

theorem mergeAlt_some_eq (ek : ErrKind) (a : Loc) (at_ : Nat) (e : Err) (h : a.pos = at_) :
    St.mergeAlt ek (some a) at_ e = some ⟨a.pos, ek.merge a.err e⟩ := by
  simp [St.mergeAlt, h]

theorem mergeAlt_some_gt (ek : ErrKind) (a : Loc) (at_ : Nat) (e : Err) (h : at_ < a.pos) :
    St.mergeAlt ek (some a) at_ e = some a := by
  have : ¬ a.pos = at_ := by omega
  simp [St.mergeAlt, this, h]

theorem mergeAlt_some_lt (ek : ErrKind) (a : Loc) (at_ : Nat) (e : Err) (h : a.pos < at_) :
    St.mergeAlt ek (some a) at_ e = some ⟨at_, e⟩ := by
  have h1 : ¬ a.pos = at_ := by omega
  have h2 : ¬ at_ < a.pos := by omega
  simp [St.mergeAlt, h1, h2]

theorem mergeAlt_mk_eq (ek : ErrKind) (p : Nat) (e0 : Err) (at_ : Nat) (e : Err) (h : p = at_) :
    St.mergeAlt ek (some ⟨p, e0⟩) at_ e = some ⟨p, ek.merge e0 e⟩ := mergeAlt_some_eq _ ⟨p, e0⟩ _ _ h
theorem mergeAlt_mk_gt (ek : ErrKind) (p : Nat) (e0 : Err) (at_ : Nat) (e : Err) (h : at_ < p) :
    St.mergeAlt ek (some ⟨p, e0⟩) at_ e = some ⟨p, e0⟩ := mergeAlt_some_gt _ ⟨p, e0⟩ _ _ h
theorem mergeAlt_mk_lt (ek : ErrKind) (p : Nat) (e0 : Err) (at_ : Nat) (e : Err) (h : p < at_) :
    St.mergeAlt ek (some ⟨p, e0⟩) at_ e = some ⟨at_, e⟩ := mergeAlt_some_lt _ ⟨p, e0⟩ _ _ h

theorem mergeAlt_pos {ek : ErrKind} {alt : Option Loc} {at_ : Nat} {e : Err} {l : Loc}
    (h : St.mergeAlt ek alt at_ e = some l) : l.pos = max (alt.elim at_ (·.pos)) at_ := by
  cases alt with
  | none => cases h; exact (Nat.max_self _).symm
  | some a =>
    show l.pos = max a.pos at_
    rcases Nat.lt_trichotomy a.pos at_ with h' | h' | h'
    · rw [mergeAlt_some_lt _ _ _ _ h'] at h; cases h; exact (Nat.max_eq_right (Nat.le_of_lt h')).symm
    · rw [mergeAlt_some_eq _ _ _ _ h'] at h; cases h; exact (Nat.max_eq_left (Nat.le_of_eq h'.symm)).symm
    · rw [mergeAlt_some_gt _ _ _ _ h'] at h; cases h; exact (Nat.max_eq_left (Nat.le_of_lt h')).symm

theorem mergeAlt_eq_some (ek : ErrKind) (alt : Option Loc) (at_ : Nat) (e : Err) :
    ∃ l, St.mergeAlt ek alt at_ e = some l ∧ l.pos = max (alt.elim at_ (·.pos)) at_ := by
  have h := mergeAlt_isSome ek alt at_ e
  rcases Option.isSome_iff_exists.mp h with ⟨l, hl⟩
  exact ⟨l, hl, mergeAlt_pos hl⟩

theorem foldAlt_append (ek : ErrKind) (alt : Option Loc) (xs ys : List Loc) :
    foldAlt ek alt (xs ++ ys) = foldAlt ek (foldAlt ek alt xs) ys := by
  simp [foldAlt, List.foldl_append]

theorem foldAlt_isSome {ek : ErrKind} {alt : Option Loc} {evs : List Loc}
    (h : evs ≠ [] ∨ alt.isSome) : (foldAlt ek alt evs).isSome := by
  induction evs generalizing alt with
  | nil => simpa using h
  | cons x xs ih =>
    rw [foldAlt_cons]
    exact ih (Or.inr (mergeAlt_isSome ..))

theorem foldAlt_pos_ge {ek : ErrKind} {alt : Option Loc} {evs : List Loc} {l : Loc}
    (h : foldAlt ek alt evs = some l) :
    (∀ ev ∈ evs, ev.pos ≤ l.pos) ∧ (∀ a, alt = some a → a.pos ≤ l.pos) := by
  induction evs generalizing alt with
  | nil =>
    have h : alt = some l := h
    subst h
    exact ⟨fun _ hev => (nomatch hev), fun a ha => by cases ha; exact Nat.le_refl _⟩
  | cons x xs ih =>
    obtain ⟨m, hm, hp⟩ := mergeAlt_eq_some ek alt x.pos x.err
    rw [foldAlt_cons, hm] at h
    have ⟨h1, h2⟩ := ih h
    have hml : max (alt.elim x.pos (·.pos)) x.pos ≤ l.pos := hp ▸ h2 m rfl
    refine ⟨fun ev hev => ?_, fun a ha => ?_⟩
    · rcases List.mem_cons.mp hev with rfl | hev
      · exact Nat.le_trans (Nat.le_max_right _ _) hml
      · exact h1 ev hev
    · subst ha
      exact Nat.le_trans (Nat.le_max_left _ _) hml

theorem foldAlt_pos_mem {ek : ErrKind} {alt : Option Loc} {evs : List Loc} {l : Loc}
    (h : foldAlt ek alt evs = some l) :
    (∃ ev ∈ evs, ev.pos = l.pos) ∨ (∃ a, alt = some a ∧ a.pos = l.pos) := by
  induction evs generalizing alt with
  | nil => exact Or.inr ⟨l, h, rfl⟩
  | cons x xs ih =>
    obtain ⟨m, hm, hp⟩ := mergeAlt_eq_some ek alt x.pos x.err
    rw [foldAlt_cons, hm] at h
    rcases ih h with ⟨ev, hev, he⟩ | ⟨a, ha, he⟩
    · exact Or.inl ⟨ev, List.mem_cons_of_mem _ hev, he⟩
    · cases ha
      -- the furthest position so far is that of `x` or that of the pending error before it
      cases alt with
      | none => exact Or.inl ⟨x, List.mem_cons_self, by rw [← he, hp]; exact (Nat.max_self _).symm⟩
      | some b =>
        rcases Nat.le_total b.pos x.pos with hb | hb
        · exact Or.inl ⟨x, List.mem_cons_self, by rw [← he, hp]; exact (Nat.max_eq_right hb).symm⟩
        · exact Or.inr ⟨b, rfl, by rw [← he, hp]; exact (Nat.max_eq_left hb).symm⟩

/-! ## B. `equiv` is an equivalence and a congruence -/

theorem mem_pushNew {x : Pat} {acc l : List Pat} : x ∈ pushNew acc l ↔ x ∈ acc ∨ x ∈ l := by
  induction l generalizing acc with
  | nil => simp [pushNew]
  | cons p ps ih =>
    unfold pushNew
    split
    · next hc =>
      have hp : p ∈ acc := by simpa using hc
      rw [ih]
      constructor
      · rintro (h | h)
        · exact Or.inl h
        · exact Or.inr (List.mem_cons_of_mem _ h)
      · rintro (h | h)
        · exact Or.inl h
        · rcases List.mem_cons.mp h with rfl | h
          · exact Or.inl hp
          · exact Or.inr h
    · rw [ih]
      simp [or_assoc]

theorem flatMerge_ef_ef (ea eb : List Pat) (fa fb : Option Nat) :
    ∃ e', (Reason.ef ea fa).flatMerge (.ef eb fb) = .ef e' (fa.or fb) ∧ ∀ x, x ∈ e' ↔ x ∈ ea ∨ x ∈ eb := by
  simp only [Reason.flatMerge]
  split
  · exact ⟨_, rfl, fun x => by rw [mem_pushNew]; exact Or.comm⟩
  · exact ⟨_, rfl, fun x => mem_pushNew⟩

@[simp] theorem flatMerge_custom_left (m : Nat) (r : Reason) :
    (Reason.custom m).flatMerge r = .custom m := by
  cases r <;> rfl

@[simp] theorem flatMerge_ef_custom (e : List Pat) (f : Option Nat) (m : Nat) :
    (Reason.ef e f).flatMerge (.custom m) = .custom m := rfl

theorem Reason.equiv_refl (a : Reason) : a.equiv a := by
  cases a <;> simp [Reason.equiv]

theorem Reason.equiv_symm {a b : Reason} (h : a.equiv b) : b.equiv a := by
  cases a <;> cases b <;> simp_all [Reason.equiv]

theorem Reason.equiv_trans {a b c : Reason} (h : a.equiv b) (h' : b.equiv c) : a.equiv c := by
  cases a <;> cases b <;> cases c <;> simp_all [Reason.equiv]

theorem Err.equiv_refl (a : Err) : a.equiv a := ⟨rfl, Reason.equiv_refl _⟩
theorem Err.equiv_symm {a b : Err} (h : a.equiv b) : b.equiv a := ⟨h.1.symm, Reason.equiv_symm h.2⟩
theorem Err.equiv_trans {a b c : Err} (h : a.equiv b) (h' : b.equiv c) : a.equiv c :=
  ⟨h.1.trans h'.1, Reason.equiv_trans h.2 h'.2⟩

theorem Loc.equiv_refl (a : Loc) : a.equiv a := ⟨rfl, Err.equiv_refl _⟩
theorem Loc.equiv_symm {a b : Loc} (h : a.equiv b) : b.equiv a := ⟨h.1.symm, Err.equiv_symm h.2⟩
theorem Loc.equiv_trans {a b c : Loc} (h : a.equiv b) (h' : b.equiv c) : a.equiv c :=
  ⟨h.1.trans h'.1, Err.equiv_trans h.2 h'.2⟩

theorem OptLoc.equiv_refl (a : Option Loc) : OptLoc.equiv a a := by
  cases a with
  | none => trivial
  | some a => exact Loc.equiv_refl a

theorem OptLoc.equiv_symm {a b : Option Loc} (h : OptLoc.equiv a b) : OptLoc.equiv b a := by
  cases a <;> cases b <;> simp_all [OptLoc.equiv]
  exact Loc.equiv_symm h

theorem OptLoc.equiv_trans {a b c : Option Loc} (h : OptLoc.equiv a b) (h' : OptLoc.equiv b c) :
    OptLoc.equiv a c := by
  cases a <;> cases b <;> cases c <;> simp_all [OptLoc.equiv]
  exact Loc.equiv_trans h h'

theorem OptLoc.equiv_of_eq {a b : Option Loc} (h : a = b) : OptLoc.equiv a b := h ▸ OptLoc.equiv_refl a

@[simp] theorem OptLoc.equiv_some {a b : Loc} : OptLoc.equiv (some a) (some b) ↔ a.equiv b := Iff.rfl

theorem flatMerge_congr {a a' b b' : Reason} (ha : a.equiv a') (hb : b.equiv b') :
    (a.flatMerge b).equiv (a'.flatMerge b') := by
  cases a with
  | custom m =>
    cases a' with
    | custom m' => simpa [Reason.equiv] using ha
    | ef _ _ => simp [Reason.equiv] at ha
  | ef ea fa =>
    cases a' with
    | custom m' => simp [Reason.equiv] at ha
    | ef ea' fa' =>
      cases b with
      | custom m =>
        cases b' with
        | custom m' => simpa [Reason.equiv] using hb
        | ef _ _ => simp [Reason.equiv] at hb
      | ef eb fb =>
        cases b' with
        | custom m' => simp [Reason.equiv] at hb
        | ef eb' fb' =>
          obtain ⟨e1, h1, m1⟩ := flatMerge_ef_ef ea eb fa fb
          obtain ⟨e2, h2, m2⟩ := flatMerge_ef_ef ea' eb' fa' fb'
          rw [h1, h2]
          intro p
          rw [m1, m2]
          simp only [Reason.equiv] at ha hb
          rw [ha p, hb p]

theorem flatMerge_assoc (a b c : Reason) :
    ((a.flatMerge b).flatMerge c).equiv (a.flatMerge (b.flatMerge c)) := by
  cases a with
  | custom m => simp [Reason.equiv]
  | ef ea fa =>
    cases b with
    | custom m => simp [Reason.equiv]
    | ef eb fb =>
      cases c with
      | custom m =>
        obtain ⟨e1, h1, _⟩ := flatMerge_ef_ef ea eb fa fb
        rw [h1]; simp [Reason.equiv]
      | ef ec fc =>
        obtain ⟨e1, h1, m1⟩ := flatMerge_ef_ef ea eb fa fb
        obtain ⟨e2, h2, m2⟩ := flatMerge_ef_ef eb ec fb fc
        rw [h1, h2]
        obtain ⟨e3, h3, m3⟩ := flatMerge_ef_ef e1 ec (fa.or fb) fc
        obtain ⟨e4, h4, m4⟩ := flatMerge_ef_ef ea e2 fa (fb.or fc)
        rw [h3, h4]
        intro p
        rw [m3, m4, m1, m2, or_assoc]

@[simp] theorem merge_rich (a b : Err) :
    ErrKind.rich.merge a b = ⟨a.span, a.reason.flatMerge b.reason, a.ctx⟩ := rfl
theorem merge_not_rich {ek : ErrKind} (h : ek ≠ .rich) (a b : Err) : ek.merge a b = a := by
  cases ek <;> first | rfl | exact absurd rfl h

theorem merge_congr {ek : ErrKind} {a a' b b' : Err} (ha : a.equiv a') (hb : b.equiv b') :
    (ek.merge a b).equiv (ek.merge a' b') := by
  cases ek with
  | rich => exact ⟨ha.1, flatMerge_congr ha.2 hb.2⟩
  | simple => exact ha
  | cheap => exact ha
  | empty => exact ha

theorem merge_assoc (ek : ErrKind) (a b c : Err) :
    (ek.merge (ek.merge a b) c).equiv (ek.merge a (ek.merge b c)) := by
  cases ek with
  | rich => exact ⟨rfl, flatMerge_assoc _ _ _⟩
  | simple => exact Err.equiv_refl _
  | cheap => exact Err.equiv_refl _
  | empty => exact Err.equiv_refl _

theorem mergeEF_equiv (ek : ErrKind) (a : Err) (exp : List Pat) (found : Option Nat) (span : Nat × Nat) :
    (ek.mergeEF a exp found span).equiv (ek.merge a (ek.expectedFound exp found span)) := by
  cases ek with
  | rich =>
    obtain ⟨sp, r, ctx⟩ := a
    cases r with
    | custom m => exact ⟨rfl, by simp [ErrKind.mergeEF, ErrKind.expectedFound, Reason.equiv]⟩
    | ef e f =>
      refine ⟨rfl, ?_⟩
      obtain ⟨e1, h1, m1⟩ := flatMerge_ef_ef e exp f found
      simp only [ErrKind.mergeEF, ErrKind.expectedFound, merge_rich, h1]
      intro p
      rw [m1, mem_pushNew]
  | simple => exact Err.equiv_refl _
  | cheap => exact Err.equiv_refl _
  | empty => exact Err.equiv_refl _

theorem replaceEF_eq (ek : ErrKind) (a : Err) (exp : List Pat) (found : Option Nat) (span : Nat × Nat) :
    ek.replaceEF a exp found span = ek.expectedFound exp found span := rfl

theorem mergeAlt_congr {ek : ErrKind} {alt alt' : Option Loc} {e e' : Err} (at_ : Nat)
    (ha : OptLoc.equiv alt alt') (he : e.equiv e') :
    OptLoc.equiv (St.mergeAlt ek alt at_ e) (St.mergeAlt ek alt' at_ e') := by
  cases alt with
  | none =>
    cases alt' with
    | none => exact ⟨rfl, he⟩
    | some _ => exact ha.elim
  | some a =>
    cases alt' with
    | none => exact ha.elim
    | some a' =>
      have hp : a.pos = a'.pos := ha.1
      rcases Nat.lt_trichotomy a.pos at_ with h | h | h
      · rw [mergeAlt_some_lt _ _ _ _ h, mergeAlt_some_lt _ _ _ _ (hp ▸ h)]
        exact ⟨rfl, he⟩
      · rw [mergeAlt_some_eq _ _ _ _ h, mergeAlt_some_eq _ _ _ _ (hp ▸ h)]
        exact ⟨hp, merge_congr ha.2 he⟩
      · rw [mergeAlt_some_gt _ _ _ _ h, mergeAlt_some_gt _ _ _ _ (hp ▸ h)]
        exact ha

theorem foldAlt_congr {ek : ErrKind} {alt alt' : Option Loc} (evs : List Loc)
    (ha : OptLoc.equiv alt alt') : OptLoc.equiv (foldAlt ek alt evs) (foldAlt ek alt' evs) := by
  induction evs generalizing alt alt' with
  | nil => exact ha
  | cons x xs ih =>
    rw [foldAlt_cons, foldAlt_cons]
    exact ih (mergeAlt_congr _ ha (Err.equiv_refl _))

/-- `add_alt` is the priority rule, except that at equal positions it merges with `merge_expected_found` -/
theorem St.addAlt_alt (env : Env) (st : St) (exp : List Pat) (found : Option Nat) (span : Nat × Nat)
    (hek : env.ek ≠ .empty) :
    (St.addAlt env st exp found span).alt =
      match st.alt with
      | none => some ⟨st.pos, env.ek.expectedFound exp found span⟩
      | some a =>
        if a.pos = st.pos then some ⟨a.pos, env.ek.mergeEF a.err exp found span⟩
        else St.mergeAlt env.ek (some a) st.pos (env.ek.expectedFound exp found span) := by
  have key : ∀ ek : ErrKind,
      (match st.alt with
        | none => some ⟨st.pos, ek.expectedFound exp found span⟩
        | some a =>
          if a.pos == st.pos then some ⟨a.pos, ek.mergeEF a.err exp found span⟩
          else if a.pos > st.pos then some a
          else some ⟨st.pos, ek.replaceEF a.err exp found span⟩) =
      (match st.alt with
        | none => some ⟨st.pos, ek.expectedFound exp found span⟩
        | some a =>
          if a.pos = st.pos then some ⟨a.pos, ek.mergeEF a.err exp found span⟩
          else St.mergeAlt ek (some a) st.pos (ek.expectedFound exp found span) : Option Loc) := by
    intro ek
    cases st.alt with
    | none => rfl
    | some a =>
      by_cases h : a.pos = st.pos
      · simp only [h, beq_self_eq_true, if_true]
      · simp only [St.mergeAlt, beq_iff_eq, h, if_false]; rfl
  obtain ⟨toks, kind, tspans, eoi, ek, defs, memoOn⟩ := env
  cases ek with
  | empty => exact absurd rfl hek
  | rich => exact key .rich
  | simple => exact key .simple
  | cheap => exact key .cheap

theorem addAlt_alt_equiv (env : Env) (st : St) (exp : List Pat) (found : Option Nat) (span : Nat × Nat)
    (hek : env.ek ≠ .empty) :
    OptLoc.equiv (St.addAlt env st exp found span).alt
      (St.mergeAlt env.ek st.alt st.pos (env.ek.expectedFound exp found span)) := by
  rw [St.addAlt_alt env st exp found span hek]
  cases st.alt with
  | none => exact OptLoc.equiv_refl _
  | some a =>
    simp only []
    split
    · next h =>
      rw [mergeAlt_some_eq _ _ _ _ h]
      exact ⟨rfl, mergeEF_equiv ..⟩
    · exact OptLoc.equiv_refl _

/-! ## C. re-adding a summary = replaying the events -/

/-- "associativity" of the priority rule: adding `m` and then `x` to `old` is adding their combination `n` -/
theorem mergeAlt_assoc {ek : ErrKind} (old : Option Loc) {m x n : Loc}
    (hn : St.mergeAlt ek (some m) x.pos x.err = some n) :
    OptLoc.equiv (St.mergeAlt ek old n.pos n.err)
      (St.mergeAlt ek (St.mergeAlt ek old m.pos m.err) x.pos x.err) := by
  cases old with
  | none =>
    rw [mergeAlt_none, mergeAlt_none]
    show OptLoc.equiv (some n) (St.mergeAlt ek (some m) x.pos x.err)
    rw [hn]; exact OptLoc.equiv_refl _
  | some o =>
    rcases Nat.lt_trichotomy m.pos x.pos with h1 | h1 | h1
    · rw [mergeAlt_some_lt _ _ _ _ h1] at hn; cases hn
      rcases Nat.lt_trichotomy o.pos m.pos with h2 | h2 | h2
      · rw [mergeAlt_some_lt _ _ _ _ h2, mergeAlt_some_lt _ _ _ _ h1,
          mergeAlt_some_lt _ _ _ _ (Nat.lt_trans h2 h1)]
        exact OptLoc.equiv_refl _
      · rw [mergeAlt_some_eq _ _ _ _ h2, mergeAlt_some_lt _ _ _ _ (h2 ▸ h1),
          mergeAlt_mk_lt _ _ _ _ _ (show o.pos < x.pos from h2 ▸ h1)]
        exact OptLoc.equiv_refl _
      · rw [mergeAlt_some_gt _ _ _ _ h2]
        exact OptLoc.equiv_refl _
    · rw [mergeAlt_some_eq _ _ _ _ h1] at hn; cases hn
      rcases Nat.lt_trichotomy o.pos m.pos with h2 | h2 | h2
      · rw [mergeAlt_some_lt _ _ _ _ h2, mergeAlt_some_lt _ _ _ _ h2,
          mergeAlt_some_eq _ _ _ _ h1]
        exact OptLoc.equiv_refl _
      · rw [mergeAlt_some_eq _ _ _ _ h2, mergeAlt_some_eq _ _ _ _ h2,
          mergeAlt_mk_eq _ _ _ _ _ (show o.pos = x.pos from h2 ▸ h1)]
        exact ⟨rfl, Err.equiv_symm (merge_assoc ..)⟩
      · rw [mergeAlt_some_gt _ _ _ _ h2, mergeAlt_some_gt _ _ _ _ h2,
          mergeAlt_some_gt _ _ _ _ (show x.pos < o.pos from h1 ▸ h2)]
        exact OptLoc.equiv_refl _
    · rw [mergeAlt_some_gt _ _ _ _ h1] at hn; cases hn
      rcases Nat.lt_trichotomy o.pos m.pos with h2 | h2 | h2
      · rw [mergeAlt_some_lt _ _ _ _ h2, mergeAlt_some_gt _ _ _ _ h1]
        exact OptLoc.equiv_refl _
      · rw [mergeAlt_some_eq _ _ _ _ h2, mergeAlt_mk_gt _ _ _ _ _ (show x.pos < o.pos from h2 ▸ h1)]
        exact OptLoc.equiv_refl _
      · rw [mergeAlt_some_gt _ _ _ _ h2, mergeAlt_some_gt _ _ _ _ (Nat.lt_trans h1 h2)]
        exact OptLoc.equiv_refl _

theorem mergeAlt_congr_loc {ek : ErrKind} {alt alt' : Option Loc} {n n' : Loc}
    (ha : OptLoc.equiv alt alt') (hn : n.equiv n') :
    OptLoc.equiv (St.mergeAlt ek alt n.pos n.err) (St.mergeAlt ek alt' n'.pos n'.err) := by
  rw [hn.1]; exact mergeAlt_congr _ ha hn.2

theorem foldAlt_some_eq_summ (ek : ErrKind) (a : Loc) (evs : List Loc) :
    foldAlt ek (some a) evs = summ ek (a :: evs) := rfl

theorem mergeAlt_summ {ek : ErrKind} {evs : List Loc} {n : Loc} (old : Option Loc)
    (h : summ ek evs = some n) :
    OptLoc.equiv (St.mergeAlt ek old n.pos n.err) (foldAlt ek old evs) := by
  induction evs generalizing old n with
  | nil => cases h
  | cons x xs ih =>
    cases xs with
    | nil =>
      have : n = x := by
        have : some x = some n := h
        cases this; rfl
      subst this; exact OptLoc.equiv_refl _
    | cons y ys =>
      have hs : (summ ek (y :: ys)).isSome := foldAlt_isSome (Or.inl (List.cons_ne_nil _ _))
      obtain ⟨m, hm⟩ := Option.isSome_iff_exists.mp hs
      -- `n ≃ x ⊕ m`
      have h1 : OptLoc.equiv (St.mergeAlt ek (some x) m.pos m.err) (some n) := by
        have := ih (some x) hm
        rwa [foldAlt_some_eq_summ, h] at this
      obtain ⟨n', hn'⟩ := Option.isSome_iff_exists.mp (mergeAlt_isSome ek (some x) m.pos m.err)
      rw [hn'] at h1
      -- `old ⊕ n ≃ old ⊕ n' ≃ (old ⊕ x) ⊕ m ≃ replay`
      refine OptLoc.equiv_trans (mergeAlt_congr_loc (OptLoc.equiv_refl old) (Loc.equiv_symm h1)) ?_
      refine OptLoc.equiv_trans (mergeAlt_assoc old hn') ?_
      rw [foldAlt_cons]
      exact ih _ hm

theorem readdAlt_summ_alt {env : Env} {st : St} {evs : List Loc} {n : Loc} (hek : env.ek ≠ .empty)
    (h : summ env.ek evs = some n) :
    OptLoc.equiv (St.readdAlt env st (some n)).alt (foldAlt env.ek st.alt evs) := by
  have : (St.readdAlt env st (some n)).alt = St.mergeAlt env.ek st.alt n.pos n.err := by
    obtain ⟨toks, kind, tspans, eoi, ek, defs, memoOn⟩ := env
    cases ek with
    | empty => exact absurd rfl hek
    | rich => rfl
    | simple => rfl
    | cheap => rfl
  rw [this]; exact mergeAlt_summ _ h

/-! ## D. characterisation of the summary -/

/-- merge the later events `t` (in order) into `e` -/
def mergeAll (ek : ErrKind) (e : Err) (t : List Loc) : Err :=
  t.foldl (fun a ev => ek.merge a ev.err) e

@[simp] theorem mergeAll_nil (ek : ErrKind) (e : Err) : mergeAll ek e [] = e := rfl
@[simp] theorem mergeAll_cons (ek : ErrKind) (e : Err) (y : Loc) (t : List Loc) :
    mergeAll ek e (y :: t) = mergeAll ek (ek.merge e y.err) t := rfl

theorem filter_pos_cons_ne {x : Loc} {p : Nat} (xs : List Loc) (h : x.pos ≠ p) :
    (x :: xs).filter (·.pos = p) = xs.filter (·.pos = p) :=
  List.filter_cons_of_neg (by simpa using h)

theorem filter_pos_cons_eq {x : Loc} {p : Nat} (xs : List Loc) (h : x.pos = p) :
    (x :: xs).filter (·.pos = p) = x :: xs.filter (·.pos = p) :=
  List.filter_cons_of_pos (by simpa using h)

/-- for every error kind: the summary is the in-order merge of the events at the furthest position -/
theorem summ_eq_mergeAll {ek : ErrKind} {evs : List Loc} {l : Loc} (h : summ ek evs = some l) :
    ∃ hd tl, evs.filter (·.pos = l.pos) = hd :: tl ∧ l.err = mergeAll ek hd.err tl := by
  cases evs with
  | nil => cases h
  | cons x xs =>
    induction xs generalizing x with
    | nil =>
      obtain rfl : x = l := Option.some.inj h
      exact ⟨x, [], filter_pos_cons_eq _ rfl, rfl⟩
    | cons y ys ih =>
      -- the first two events combine into one: `summ (x :: y :: ys) = summ (z :: ys)`
      have h : foldAlt ek (St.mergeAlt ek (some x) y.pos y.err) ys = some l := h
      rcases Nat.lt_trichotomy x.pos y.pos with hlt | heq | hgt
      · rw [mergeAlt_some_lt _ _ _ _ hlt] at h
        have hge : y.pos ≤ l.pos := (foldAlt_pos_ge h).2 _ rfl
        obtain ⟨hd, tl, hf, he⟩ := ih y h
        exact ⟨hd, tl, by rw [filter_pos_cons_ne _ (by omega)]; exact hf, he⟩
      · rw [mergeAlt_some_eq _ _ _ _ heq] at h
        obtain ⟨hd, tl, hf, he⟩ := ih ⟨x.pos, ek.merge x.err y.err⟩ h
        by_cases hp : x.pos = l.pos
        · have hy : y.pos = l.pos := heq ▸ hp
          rw [filter_pos_cons_eq (x := ⟨x.pos, ek.merge x.err y.err⟩) _ hp] at hf
          cases hf
          exact ⟨x, y :: ys.filter (·.pos = l.pos), by rw [filter_pos_cons_eq _ hp, filter_pos_cons_eq _ hy], he⟩
        · rw [filter_pos_cons_ne (x := ⟨x.pos, ek.merge x.err y.err⟩) _ hp] at hf
          exact ⟨hd, tl, by rw [filter_pos_cons_ne _ hp, filter_pos_cons_ne _ (heq ▸ hp)]; exact hf, he⟩
      · rw [mergeAlt_some_gt _ _ _ _ hgt] at h
        have hge : x.pos ≤ l.pos := (foldAlt_pos_ge h).2 _ rfl
        obtain ⟨hd, tl, hf, he⟩ := ih x h
        by_cases hp : x.pos = l.pos
        · rw [filter_pos_cons_eq _ hp] at hf ⊢
          rw [filter_pos_cons_ne _ (by omega)]; exact ⟨hd, tl, hf, he⟩
        · rw [filter_pos_cons_ne _ hp] at hf ⊢
          rw [filter_pos_cons_ne _ (by omega)]; exact ⟨hd, tl, hf, he⟩
theorem summ_head {ek : ErrKind} {evs : List Loc} {l : Loc} (h : summ ek evs = some l) :
    ∃ hne : evs.filter (·.pos = l.pos) ≠ [], ∃ tl,
      l.err = mergeAll ek ((evs.filter (·.pos = l.pos)).head hne).err tl := by
  obtain ⟨hd, tl, hf, he⟩ := summ_eq_mergeAll h
  refine ⟨by rw [hf]; exact List.cons_ne_nil _ _, tl, ?_⟩
  simp only [hf, List.head_cons]
  exact he

theorem mergeAll_not_rich {ek : ErrKind} (hek : ek ≠ .rich) (e : Err) (t : List Loc) : mergeAll ek e t = e := by
  induction t generalizing e with
  | nil => rfl
  | cons y t ih => rw [mergeAll_cons, merge_not_rich hek, ih]

/-- for the kinds whose `merge` keeps `self`, the summary is simply the first event at the furthest position -/
theorem summ_not_rich {ek : ErrKind} (hek : ek ≠ .rich) {evs : List Loc} {l : Loc}
    (h : summ ek evs = some l) :
    ∃ hne : evs.filter (·.pos = l.pos) ≠ [], l.err = ((evs.filter (·.pos = l.pos)).head hne).err := by
  obtain ⟨hne, tl, he⟩ := summ_head h
  exact ⟨hne, by rw [he, mergeAll_not_rich hek]⟩

def Reason.isCustom : Reason → Bool
  | .custom _ => true
  | .ef _ _ => false

@[simp] theorem Reason.isCustom_custom (m : Nat) : (Reason.custom m).isCustom = true := rfl
@[simp] theorem Reason.isCustom_ef (e : List Pat) (f : Option Nat) : (Reason.ef e f).isCustom = false := rfl

theorem Reason.isCustom_iff {r : Reason} : r.isCustom = true ↔ ∃ m, r = .custom m := by
  cases r <;> simp

theorem Reason.isCustom_false_iff {r : Reason} : r.isCustom = false ↔ ∀ m, r ≠ .custom m := by
  cases r <;> simp

theorem mergeAll_rich_span (e : Err) (t : List Loc) : (mergeAll .rich e t).span = e.span := by
  induction t generalizing e with
  | nil => rfl
  | cons y t ih => rw [mergeAll_cons, ih]; rfl

theorem mergeAll_rich_ctx (e : Err) (t : List Loc) : (mergeAll .rich e t).ctx = e.ctx := by
  induction t generalizing e with
  | nil => rfl
  | cons y t ih => rw [mergeAll_cons, ih]; rfl

theorem mergeAll_rich_custom {e : Err} {m : Nat} (t : List Loc) (h : e.reason = .custom m) :
    (mergeAll .rich e t).reason = .custom m := by
  induction t generalizing e with
  | nil => exact h
  | cons y t ih =>
    rw [mergeAll_cons]
    apply ih
    simp [h]

theorem mergeAll_rich_ef {e : Err} {ex : List Pat} {f : Option Nat} (t : List Loc)
    (h : e.reason = .ef ex f) (hn : ∀ ev ∈ t, ev.err.reason.isCustom = false) :
    ∃ ex' f', (mergeAll .rich e t).reason = .ef ex' f' ∧
      (∀ x, x ∈ ex' ↔ x ∈ ex ∨ ∃ ev ∈ t, ∃ e2 f2, ev.err.reason = .ef e2 f2 ∧ x ∈ e2) ∧
      (f.isSome = true → f' = f) ∧ (f' = f ∨ ∃ ev ∈ t, ∃ e2, ev.err.reason = .ef e2 f') := by
  induction t generalizing e ex f with
  | nil => exact ⟨ex, f, h, by simp, fun _ => rfl, Or.inl rfl⟩
  | cons y t ih =>
    rw [mergeAll_cons]
    have hy := hn y List.mem_cons_self
    cases hyr : y.err.reason with
    | custom m => simp [hyr] at hy
    | ef ey fy =>
      obtain ⟨e1, h1, m1⟩ := flatMerge_ef_ef ex ey f fy
      have hr : (ErrKind.rich.merge e y.err).reason = .ef e1 (f.or fy) := by
        simp [h, hyr, h1]
      obtain ⟨ex', f', hx', mx', hf1, hf2⟩ := ih hr (fun ev hev => hn ev (List.mem_cons_of_mem _ hev))
      refine ⟨ex', f', hx', ?_, ?_, ?_⟩
      · intro x
        rw [mx', m1]
        constructor
        · rintro ((hx | hx) | ⟨ev, hev, e2, f2, hr2, hx⟩)
          · exact Or.inl hx
          · exact Or.inr ⟨y, List.mem_cons_self, ey, fy, hyr, hx⟩
          · exact Or.inr ⟨ev, List.mem_cons_of_mem _ hev, e2, f2, hr2, hx⟩
        · rintro (hx | ⟨ev, hev, e2, f2, hr2, hx⟩)
          · exact Or.inl (Or.inl hx)
          · rcases List.mem_cons.mp hev with rfl | hev
            · rw [hyr] at hr2; cases hr2
              exact Or.inl (Or.inr hx)
            · exact Or.inr ⟨ev, hev, e2, f2, hr2, hx⟩
      · intro hs
        cases f with
        | none => simp at hs
        | some v => exact hf1 (by simp)
      · rcases hf2 with hf2 | ⟨ev, hev, e2, hr2⟩
        · cases f with
          | some v => left; simpa using hf2
          | none =>
            simp only [Option.none_or] at hf2
            right; exact ⟨y, List.mem_cons_self, ey, by rw [hyr, hf2]⟩
        · right; exact ⟨ev, List.mem_cons_of_mem _ hev, e2, hr2⟩

theorem mergeAll_rich_ef_custom {e : Err} {ex : List Pat} {f : Option Nat} (t : List Loc) {ev : Loc} {m : Nat}
    (h : e.reason = .ef ex f)
    (hf : t.find? (fun ev => ev.err.reason.isCustom) = some ev) (hm : ev.err.reason = .custom m) :
    (mergeAll .rich e t).reason = .custom m := by
  induction t generalizing e ex f with
  | nil => simp at hf
  | cons y t ih =>
    rw [mergeAll_cons]
    cases hyr : y.err.reason with
    | custom m' =>
      have : y = ev := by simpa [List.find?_cons, hyr] using hf
      subst this
      rw [hyr] at hm; cases hm
      apply mergeAll_rich_custom
      simp [h, hyr]
    | ef ey fy =>
      have hf' : t.find? (fun ev => ev.err.reason.isCustom) = some ev := by
        simpa [List.find?_cons, hyr] using hf
      obtain ⟨e1, h1, _⟩ := flatMerge_ef_ef ex ey f fy
      have hr : (ErrKind.rich.merge e y.err).reason = .ef e1 (f.or fy) := by
        simp [h, hyr, h1]
      exact ih hr hf'

theorem mergeAll_rich_first_custom (hd : Loc) (tl : List Loc) {ev : Loc} {m : Nat}
    (hf : (hd :: tl).find? (fun ev => ev.err.reason.isCustom) = some ev) (hm : ev.err.reason = .custom m) :
    (mergeAll .rich hd.err tl).reason = .custom m := by
  cases hr : hd.err.reason with
  | custom m' =>
    have : hd = ev := by simpa [List.find?_cons, hr] using hf
    subst this
    rw [hr] at hm; cases hm
    exact mergeAll_rich_custom _ hr
  | ef ex f =>
    have hf' : tl.find? (fun ev => ev.err.reason.isCustom) = some ev := by
      simpa [List.find?_cons, hr] using hf
    exact mergeAll_rich_ef_custom _ hr hf' hm

/-- D1: the span is that of the first event at the furthest position -/
theorem summ_span {evs : List Loc} {l : Loc} (h : summ .rich evs = some l) :
    ∃ hne : evs.filter (·.pos = l.pos) ≠ [],
      l.err.span = ((evs.filter (·.pos = l.pos)).head hne).err.span := by
  obtain ⟨hne, tl, he⟩ := summ_head h
  exact ⟨hne, by rw [he, mergeAll_rich_span]⟩

theorem summ_ctx {evs : List Loc} {l : Loc} (h : summ .rich evs = some l) :
    ∃ hne : evs.filter (·.pos = l.pos) ≠ [],
      l.err.ctx = ((evs.filter (·.pos = l.pos)).head hne).err.ctx := by
  obtain ⟨hne, tl, he⟩ := summ_head h
  exact ⟨hne, by rw [he, mergeAll_rich_ctx]⟩

/-- D2 (core form): the FIRST custom event at the furthest position decides the reason -/
theorem summ_custom_of_find {evs : List Loc} {l ev : Loc} {m : Nat} (h : summ .rich evs = some l)
    (hf : (evs.filter (·.pos = l.pos)).find? (fun ev => ev.err.reason.isCustom) = some ev)
    (hm : ev.err.reason = .custom m) : l.err.reason = .custom m := by
  obtain ⟨hd, tl, hfl, he⟩ := summ_eq_mergeAll h
  rw [hfl] at hf
  rw [he]
  exact mergeAll_rich_first_custom hd tl hf hm

/-- D2: if some event at the furthest position is custom, the reason is the message of the first such event -/
theorem summ_custom {evs : List Loc} {l : Loc} (h : summ .rich evs = some l)
    (hc : ∃ ev ∈ evs, ev.pos = l.pos ∧ ∃ m, ev.err.reason = .custom m) :
    ∃ ev m, (evs.filter (·.pos = l.pos)).find? (fun ev => ev.err.reason.isCustom) = some ev ∧
      ev.err.reason = .custom m ∧ l.err.reason = .custom m := by
  obtain ⟨ev0, hev0, hp0, m0, hm0⟩ := hc
  have hsome : ((evs.filter (·.pos = l.pos)).find? (fun ev => ev.err.reason.isCustom)).isSome := by
    rw [List.find?_isSome]
    exact ⟨ev0, by simp [hev0, hp0], by simp [hm0]⟩
  obtain ⟨ev, hev⟩ := Option.isSome_iff_exists.mp hsome
  have hcust : ev.err.reason.isCustom = true := by
    have := List.find?_some hev
    simpa using this
  obtain ⟨m, hm⟩ := Reason.isCustom_iff.mp hcust
  exact ⟨ev, m, hev, hm, summ_custom_of_find h hev hm⟩

/-- D2, list-splitting form: `ev` is at the furthest position, is custom, and nothing before it at that
    position is custom -/
theorem summ_custom_split {xs ys : List Loc} {l ev : Loc} {m : Nat}
    (h : summ .rich (xs ++ ev :: ys) = some l) (hp : ev.pos = l.pos) (hm : ev.err.reason = .custom m)
    (hfirst : ∀ x ∈ xs, x.pos = l.pos → ∀ m', x.err.reason ≠ .custom m') :
    l.err.reason = .custom m := by
  apply summ_custom_of_find h _ hm
  rw [List.filter_append, List.find?_append]
  have h1 : (xs.filter (·.pos = l.pos)).find? (fun ev => ev.err.reason.isCustom) = none := by
    rw [List.find?_eq_none]
    intro x hx
    have hx' := List.mem_filter.mp hx
    have := hfirst x hx'.1 (by simpa using hx'.2)
    simpa using Reason.isCustom_false_iff.mpr this
  rw [h1]
  simp [hp, hm]

theorem summ_no_custom {evs : List Loc} {l : Loc} (h : summ .rich evs = some l)
    (hn : ∀ ev ∈ evs, ev.pos = l.pos → ∀ m, ev.err.reason ≠ .custom m) :
    ∃ hd tl ex f, evs.filter (·.pos = l.pos) = hd :: tl ∧ (∀ ev, ev ∈ hd :: tl ↔ ev ∈ evs ∧ ev.pos = l.pos) ∧
      hd.err.reason = .ef ex f ∧ (∀ ev ∈ tl, ev.err.reason.isCustom = false) ∧ l.err = mergeAll .rich hd.err tl := by
  obtain ⟨hd, tl, hfl, he⟩ := summ_eq_mergeAll h
  have hmem : ∀ ev, ev ∈ hd :: tl ↔ ev ∈ evs ∧ ev.pos = l.pos := by
    intro ev; rw [← hfl]; simp
  have hhd := (hmem hd).mp List.mem_cons_self
  cases hr : hd.err.reason with
  | custom m => exact absurd hr (hn hd hhd.1 hhd.2 m)
  | ef ex f =>
    refine ⟨hd, tl, ex, f, hfl, hmem, hr, fun ev hev => ?_, he⟩
    have := (hmem ev).mp (List.mem_cons_of_mem _ hev)
    exact Reason.isCustom_false_iff.mpr (hn ev this.1 this.2)

/-- D3: if no event at the furthest position is custom, the expected set is exactly the union over the
    events at the furthest position -/
theorem summ_expected {evs : List Loc} {l : Loc} (h : summ .rich evs = some l)
    (hn : ∀ ev ∈ evs, ev.pos = l.pos → ∀ m, ev.err.reason ≠ .custom m) :
    ∃ exp f, l.err.reason = .ef exp f ∧
      ∀ x, x ∈ exp ↔ ∃ ev ∈ evs, ev.pos = l.pos ∧ ∃ ex fo, ev.err.reason = .ef ex fo ∧ x ∈ ex := by
  obtain ⟨hd, tl, ex, f, _, hmem, hr, hn', he⟩ := summ_no_custom h hn
  have hhd := (hmem hd).mp List.mem_cons_self
  obtain ⟨ex', f', hx', mx', _, _⟩ := mergeAll_rich_ef tl hr hn'
  refine ⟨ex', f', by rw [he]; exact hx', ?_⟩
  intro x
  rw [mx']
  constructor
  · rintro (hx | ⟨ev, hev, e2, f2, hr2, hx⟩)
    · exact ⟨hd, hhd.1, hhd.2, ex, f, hr, hx⟩
    · have := (hmem ev).mp (List.mem_cons_of_mem _ hev)
      exact ⟨ev, this.1, this.2, e2, f2, hr2, hx⟩
  · rintro ⟨ev, hev, hp, e2, f2, hr2, hx⟩
    rcases List.mem_cons.mp ((hmem ev).mpr ⟨hev, hp⟩) with rfl | hev'
    · rw [hr] at hr2; cases hr2
      exact Or.inl hx
    · exact Or.inr ⟨ev, hev', e2, f2, hr2, hx⟩

/-- D3 addendum: the `found` of the result is the `found` of an event at the furthest position — the first event's if it
    has one, otherwise the first one present among the later events there -/
theorem summ_found {evs : List Loc} {l : Loc} (h : summ .rich evs = some l)
    (hn : ∀ ev ∈ evs, ev.pos = l.pos → ∀ m, ev.err.reason ≠ .custom m) :
    ∃ hne : evs.filter (·.pos = l.pos) ≠ [], ∃ exp ex f f', l.err.reason = .ef exp f' ∧
      ((evs.filter (·.pos = l.pos)).head hne).err.reason = .ef ex f ∧ (f.isSome = true → f' = f) ∧
      ∃ ev ∈ evs, ev.pos = l.pos ∧ ∃ e2, ev.err.reason = .ef e2 f' := by
  obtain ⟨hd, tl, ex, f, hfl, hmem, hr, hn', he⟩ := summ_no_custom h hn
  have hhd := (hmem hd).mp List.mem_cons_self
  obtain ⟨ex', f', hx', _, hf1, hf2⟩ := mergeAll_rich_ef tl hr hn'
  refine ⟨by rw [hfl]; exact List.cons_ne_nil _ _, ex', ex, f, f', by rw [he]; exact hx', ?_, hf1, ?_⟩
  · simp only [hfl, List.head_cons]
    exact hr
  · rcases hf2 with hf2 | ⟨ev, hev, e2, hr2⟩
    · exact ⟨hd, hhd.1, hhd.2, ex, by rw [hr, hf2]⟩
    · have := (hmem ev).mp (List.mem_cons_of_mem _ hev)
      exact ⟨ev, this.1, this.2, e2, hr2⟩

#print axioms mergeAlt_summ
#print axioms summ_expected
#print axioms summ_custom
#print axioms summ_span
#print axioms foldAlt_pos_ge
#print axioms foldAlt_pos_mem
#print axioms addAlt_alt_equiv

end Chumsky
