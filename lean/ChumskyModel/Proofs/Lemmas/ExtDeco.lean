/-
  C17 for the extension steps: `pratt_go` and `NestedIn::go` under the two-run simulation of `DescSim.lean` (run on a grammar
  with decorations against the run on the grammar with `labelled` / `as_context` / `map_err` erased).
  The passes of `pratt_go` are followed by recursion on the operator table here, not through `PrattTable`: the two runs go
  over two different tables (the second one erased).
-/
import ChumskyModel.Proofs.Lemmas.ExtBridge
import ChumskyModel.Proofs.Lemmas.DescSim
import ChumskyModel.Proofs.Lemmas.PrattRefine
import ChumskyModel.Proofs.Lemmas.NestedRefine
namespace Chumsky

def PrattOp.erase (b : Bool) : PrattOp → PrattOp
  | .prefix bp op => .prefix bp (op.erase b)
  | .postfix bp op => .postfix bp (op.erase b)
  | .infix la bp op => .infix la bp (op.erase b)

/-- related results of the operator passes: none applied (related states), or one applied, or the pass aborted -/
inductive SumRel (o : Option Sh) (s : Bool) : Sum St Out → Sum St Out → Prop
  | none {a b : St} : Rel o s a b → SumRel o s (.inl a) (.inl b)
  | ok (v : Val) {a b : St} : Rel o s a b → SumRel o s (.inr (.ok v a)) (.inr (.ok v b))
  | panic (w : Nat) : SumRel o s (.inr (.panic w)) (.inr (.panic w))
  | oof : SumRel o s (.inr .oof) (.inr .oof)

@[elab_as_elim] theorem SumRel.elim {o s} {P : Sum St Out → Sum St Out → Prop} {x y : Sum St Out} (h : SumRel o s x y)
    (none : ∀ {a b}, Rel o s a b → P (.inl a) (.inl b)) (ok : ∀ {a b} v, Rel o s a b → P (.inr (.ok v a)) (.inr (.ok v b)))
    (panic : ∀ w, P (.inr (.panic w)) (.inr (.panic w))) (oof : P (.inr .oof) (.inr .oof)) : P x y := by
  cases h with
  | none h => exact none h
  | ok v h => exact ok v h
  | panic w => exact panic w
  | oof => exact oof

theorem SumRel.ok_eq {o s} {v1 v2 : Val} {a b : St} (hv : v1 = v2) (h : Rel o s a b) :
    SumRel o s (.inr (.ok v1 a)) (.inr (.ok v2 b)) :=
  hv ▸ .ok v1 h

section
variable {o : Option Sh} {s b : Bool} {env1 env2 : Env} {R1 R2 : Mode → G → St → Out} {rec1 rec2 : Nat → St → Out}

/-- the atom / operator parsers are simulated (fixed sheltered shape `o`) -/
def PSim (o : Option Sh) (s b : Bool) (ok : G → Prop) (R1 R2 : Mode → G → St → Out) : Prop :=
  ∀ m g st1 st2, ok g → Rel o s st1 st2 → OutRel o s (R1 m g st1) (R2 m (g.erase b) st2)
def RecSim (o : Option Sh) (s : Bool) (rec1 rec2 : Nat → St → Out) : Prop :=
  ∀ p st1 st2, Rel o s st1 st2 → OutRel o s (rec1 p st1) (rec2 p st2)

/- The three operator passes walk the table in declaration order; an operator of another kind, or one whose binding power is
   too low, is skipped in both runs; one that fails (or whose operand fails) is rewound to the same checkpoint in both. -/

theorem prattPrefix_sim {ok : G → Prop} (hsp : ∀ i j, env2.mkSpan i j = env1.mkSpan i j) (hR : PSim o s b ok R1 R2)
    (hrec : RecSim o s rec1 rec2) (m : Mode) (c : Chk) :
    ∀ (ops : List PrattOp), (∀ op ∈ ops, ok op.parser) → ∀ {st1 st2 : St}, Rel o s st1 st2 →
      SumRel o s (prattPrefix R1 rec1 env1 m c ops st1) (prattPrefix R2 rec2 env2 m c (ops.map (PrattOp.erase b)) st2)
  | [], _, _, _, hs => .none hs
  | .prefix bp op :: rest, hops, _, _, hs => by
    have skip {a c' : St} (hr : Rel o s a c') :=
      prattPrefix_sim hsp hR hrec m c rest (fun x hx => hops x (List.mem_cons_of_mem _ hx)) (hr.rewind c)
    unfold_runs
    refine (hR m op _ _ (hops _ (List.mem_cons_self ..)) hs).elim (fun _ hr => ?_) (fun hr _ => skip hr) .panic .oof
    unfold_runs
    exact (hrec _ _ _ hr).elim (fun _ hr2 => .ok_eq (by rw [hsp, hr2.pos]) hr2) (fun hr2 _ => skip hr2) .panic .oof
  | .infix _ _ _ :: rest, hops, _, _, hs | .postfix _ _ :: rest, hops, _, _, hs =>
    prattPrefix_sim hsp hR hrec m c rest (fun x hx => hops x (List.mem_cons_of_mem _ hx)) hs

theorem prattPostfix_sim {ok : G → Prop} (hsp : ∀ i j, env2.mkSpan i j = env1.mkSpan i j) (hR : PSim o s b ok R1 R2)
    (m : Mode) (c c' : Chk) (minP : Nat) (lhs : Val) :
    ∀ (ops : List PrattOp), (∀ op ∈ ops, ok op.parser) → ∀ {st1 st2 : St}, Rel o s st1 st2 →
      SumRel o s (prattPostfix R1 env1 m c c' minP lhs ops st1)
        (prattPostfix R2 env2 m c c' minP lhs (ops.map (PrattOp.erase b)) st2)
  | [], _, _, _, hs => .none hs
  | .postfix bp op :: rest, hops, _, _, hs => by
    have skip {a c2 : St} (hr : Rel o s a c2) :=
      prattPostfix_sim hsp hR m c c' minP lhs rest (fun x hx => hops x (List.mem_cons_of_mem _ hx)) hr
    refine rel_ite Iff.rfl ?_ (skip hs)
    exact (hR m op _ _ (hops _ (List.mem_cons_self ..)) hs).elim (fun _ hr => .ok_eq (by rw [hsp, hr.pos]) hr)
      (fun hr _ => skip (hr.rewind c')) .panic .oof
  | .infix _ _ _ :: rest, hops, _, _, hs | .prefix _ _ :: rest, hops, _, _, hs =>
    prattPostfix_sim hsp hR m c c' minP lhs rest (fun x hx => hops x (List.mem_cons_of_mem _ hx)) hs

theorem prattInfix_sim {ok : G → Prop} (hsp : ∀ i j, env2.mkSpan i j = env1.mkSpan i j) (hR : PSim o s b ok R1 R2)
    (hrec : RecSim o s rec1 rec2) (m : Mode) (c c' : Chk) (minP : Nat) (lhs : Val) :
    ∀ (ops : List PrattOp), (∀ op ∈ ops, ok op.parser) → ∀ {st1 st2 : St}, Rel o s st1 st2 →
      SumRel o s (prattInfix R1 rec1 env1 m c c' minP lhs ops st1)
        (prattInfix R2 rec2 env2 m c c' minP lhs (ops.map (PrattOp.erase b)) st2)
  | [], _, _, _, hs => .none hs
  | .infix la bp op :: rest, hops, _, _, hs => by
    have skip {a c2 : St} (hr : Rel o s a c2) :=
      prattInfix_sim hsp hR hrec m c c' minP lhs rest (fun x hx => hops x (List.mem_cons_of_mem _ hx)) hr
    refine rel_ite Iff.rfl ?_ (skip hs)
    refine (hR m op _ _ (hops _ (List.mem_cons_self ..)) hs).elim (fun _ hr => ?_) (fun hr _ => skip (hr.rewind c'))
      .panic .oof
    unfold_runs
    exact (hrec _ _ _ hr).elim (fun _ hr2 => .ok_eq (by rw [hsp, hr2.pos]) hr2) (fun hr2 _ => skip (hr2.rewind c'))
      .panic .oof
  | .postfix _ _ :: rest, hops, _, _, hs | .prefix _ _ :: rest, hops, _, _, hs =>
    prattInfix_sim hsp hR hrec m c c' minP lhs rest (fun x hx => hops x (List.mem_cons_of_mem _ hx)) hs

theorem prattLoop_sim {ok : G → Prop} (hsp : ∀ i j, env2.mkSpan i j = env1.mkSpan i j) (hR : PSim o s b ok R1 R2)
    (hrec : RecSim o s rec1 rec2) (m : Mode) (ops : List PrattOp) (hops : ∀ op ∈ ops, ok op.parser) (c : Chk)
    (minP : Nat) :
    ∀ (k : Nat) {st1 st2 : St} (lhs : Val), Rel o s st1 st2 →
      OutRel o s (prattLoop R1 rec1 env1 m ops c minP k st1 lhs)
        (prattLoop R2 rec2 env2 m (ops.map (PrattOp.erase b)) c minP k st2 lhs)
  | 0, _, _, _, _ => .oof
  | k + 1, st1, _, lhs, hs => by
    have again {a c2 : St} (v : Val) (hr : Rel o s a c2) := prattLoop_sim hsp hR hrec m ops hops c minP k v hr
    unfold_runs
    rw [← hs.save]
    refine (prattPostfix_sim hsp hR m c st1.save minP lhs ops hops hs).elim (fun hr1 => ?_) again .panic .oof
    unfold_runs
    exact (prattInfix_sim hsp hR hrec m c st1.save minP lhs ops hops hr1).elim (fun hr2 => .ok _ (hr2.rewind _)) again
      .panic .oof

/-- **`pratt_go` under the decoration-erasing simulation**: if the atom and the operator parsers are simulated (with the
    sheltered shape `o`), so is the Pratt parser built from them — the operator rewinds keep the relation, the values handed to
    the fold callbacks and the spans are equal -/
theorem prattGo_sim {ok : G → Prop} (hsp : ∀ i j, env2.mkSpan i j = env1.mkSpan i j) (hR : PSim o s b ok R1 R2)
    (m : Mode) (atom : G) (ops : List PrattOp) (hatom : ok atom) (hops : ∀ op ∈ ops, ok op.parser) :
    ∀ (k minP : Nat) (st1 st2 : St), Rel o s st1 st2 →
      OutRel o s (prattGo R1 env1 m atom ops k minP st1)
        (prattGo R2 env2 m (atom.erase b) (ops.map (PrattOp.erase b)) k minP st2) := by
  intro k
  induction k with
  | zero => intro _ _ _ _; exact .oof
  | succ k ih =>
    intro minP st1 st2 hs
    have loop {a c : St} (v : Val) (hr : Rel o s a c) := prattLoop_sim hsp hR ih m ops hops st1.save minP k v hr
    unfold_runs
    rw [← hs.save]
    refine (prattPrefix_sim hsp hR ih m st1.save ops hops hs).elim (fun hr0 => ?_) loop .panic .oof
    unfold_runs
    exact (hR m atom _ _ hatom hr0).elim loop .fail .panic .oof
end

/-! ### `NestedIn::go` and the extension machine

  One simulation for both relations.  The weak one (`s = false`: acceptance, values, cursor, inspector, context, number and
  recording positions of the secondary errors; a failing run leaves a pending error in both runs) holds for EVERY grammar and
  every table; the strong one (`s = true`: also the spans of all errors) for admissible extensions (`EEnv.Adm`). -/

def HEnv.erase (b : Bool) (h : HEnv) : HEnv := { h with a := h.a.erase b, b := h.b.erase b }

def Ext.erase (b : Bool) : Ext → Ext
  | .pratt atom ops => .pratt (atom.erase b) (ops.map (PrattOp.erase b))
  | .nested a c => .nested (a.erase b) (c.erase b)

def EEnv.erase (b : Bool) (e : EEnv) : EEnv := { e with exts := e.exts.map (Ext.erase b) }

/-- a runner pair simulated in every related pair of environments, for every sheltered shape -/
def SimRW (b dr : Bool) (R1 R2 : Runner) : Prop :=
  ∀ env1 env2, EnvRel false b dr env1 env2 → ∀ (o : Option Sh) (m : Mode) (g : G) (st1 st2 : St), Rel o false st1 st2 →
    OutRel o false (R1 env1 m g st1) (R2 env2 m (g.erase b) st2)

section
variable {s b dr : Bool} {env1 env2 : Env} {o : Option Sh}

theorem innerEnv_envRel (he : EnvRel s b dr env1 env2) (h : HEnv) (kids : List Nat) :
    EnvRel s b dr (h.innerEnv env1 kids) ((h.erase b).innerEnv env2 kids) :=
  { he with toks := rfl, kind := rfl, tspans := rfl, eoi := rfl }

theorem errRel_rehome (p : Nat) {xs ys : List Loc} (h : errRel s xs ys) : errRel s (rehome p xs) (rehome p ys) := by
  have := congrArg (List.map (fun q : Sh => ((p, q.2) : Sh))) h
  simpa [errRel, rehome, List.map_map, Function.comp_def, Loc.shs] using this

/-- the pending error after the merge, on shapes: the inner run's one, re-homed at the outer position, is added -/
theorem nestedMerge_alt {env : Env} (hk : env.ek ≠ .empty) (st1 si : St) :
    (nestedMerge env st1 si).alt.map Loc.sh =
      comb (st1.alt.map Loc.sh) ((si.alt.map Loc.sh).map fun q => (st1.pos, q.2)) := by
  unfold nestedMerge
  cases si.alt with
  | none => exact (comb_none_right _).symm
  | some a => exact addAltErr_alt hk ..

/-- the inner run starts with nothing sheltered, so its final states are related at `none` -/
theorem nestedMerge_rel (he : EnvRel s b dr env1 env2) {a1 b1 si1 si2 : St} (hr : Rel o s a1 b1) (hi : Rel none s si1 si2) :
    Rel o s (nestedMerge env1 a1 si1) (nestedMerge env2 b1 si2) := by
  refine ⟨by simp [hr.pos], by simp [hi.insp], by simp [hr.ctx], ?_, fun hs => ?_⟩
  · simp only [nestedMerge_errs, hr.pos]
    exact hr.errs.append (errRel_rehome _ hi.errs)
  · simp only [altRel, nestedMerge_alt he.ek1, nestedMerge_alt he.ek2, (hr.alt hs).eq, comb_assoc, hr.pos, hi.altEq hs]

theorem OutRel.innerThenEnd {ra1 ra2 : Out} {rend1 rend2 : St → Out} (ha : OutRel o s ra1 ra2)
    (hend : ∀ {a c : St}, Rel o s a c → OutRel o s (rend1 a) (rend2 c)) :
    OutRel o s (innerThenEndM ra1 rend1) (innerThenEndM ra2 rend2) :=
  ha.andThen fun va hr1 => (hend hr1).andThen fun _ hr2 => .ok va hr2

/-- **`NestedIn::go` under the simulation**: the sub-context keeps the relation — the inner errors are re-homed at the same
    outer position, and the inner pending error is merged into related outer states -/
theorem nestedStep_sim {R1 R2 : Runner} (hR : ∀ env1 env2, EnvRel s b dr env1 env2 → SimR s b dr env1 env2 R1 R2)
    (he : EnvRel s b dr env1 env2) (h : HEnv) (u : Bool) (ha : h.a.adm s b dr u = true) (hb : h.b.adm s b dr u = true)
    (ho : s = true → u = false → o = none) (m : Mode) {st1 st2 : St} (hs : Rel o s st1 st2) :
    OutRel o s (nestedStepM R1 h env1 m st1) (nestedStepM R2 (h.erase b) env2 m st2) := by
  unfold_runs
  refine (hR env1 env2 he o u .emit h.b _ _ hs hb ho).elim (fun vb hr => ?_) .fail .panic .oof
  unfold_runs
  rw [show (h.erase b).kidsOf vb = h.kidsOf vb from rfl]
  cases h.kidsOf vb with
  | none => exact .panic _
  | some kids =>
    have inner {g : G} (m : Mode) (hg : g.adm s b dr u = true) {a c : St} (hac : Rel none s a c) :=
      hR _ _ (innerEnv_envRel he h kids) none u m g a c hac hg (fun _ _ => rfl)
    unfold_runs
    refine (OutRel.innerThenEnd (inner m ha ?_) (inner .check (g := .end_) rfl)).elim
      (fun va hri => .ok va (nestedMerge_rel he hr hri))
      (fun hri hp => .fail (nestedMerge_rel he hr hri)
        ⟨nestedMerge_alt_isSome _ _ _ hp.1, nestedMerge_alt_isSome _ _ _ hp.2⟩) .panic .oof
    exact ⟨rfl, hr.insp, hr.ctx, rfl, fun _ => rfl⟩

theorem nestedStep_simW {b dr : Bool} {R1 R2 : Runner} (hR : SimRW b dr R1 R2) {env1 env2 : Env}
    (he : EnvRel false b dr env1 env2) (h : HEnv) (o : Option Sh) (m : Mode) (st1 st2 : St) (hs : Rel o false st1 st2) :
    OutRel o false (nestedStepM R1 h env1 m st1) (nestedStepM R2 (h.erase b) env2 m st2) :=
  nestedStep_sim (fun e1 e2 he' o _ m g a c hac _ _ => hR e1 e2 he' o m g a c hac) he h false (G.adm_weak ..)
    (G.adm_weak ..) nofun m hs

end

/-- only `call` refers to an extension, and erasing decorations turns nothing else into a `call` -/
theorem EEnv.find_none_or_call (e e' : EEnv) (b : Bool) (g : G) :
    (∃ k, g = .call k) ∨ (e.find g = none ∧ e'.find (g.erase b) = none) := by
  cases g with
  | call k => exact .inl ⟨k, rfl⟩
  | labelled l c a | mapErr k a => cases b <;> exact .inr ⟨rfl, rfl⟩
  | _ => exact .inr ⟨rfl, rfl⟩

theorem EEnv.find_call {e : EEnv} {g : G} {x : Ext} (h : e.find g = some x) : ∃ k, g = .call k :=
  (EEnv.find_none_or_call e e false g).resolve_right fun h' => by rw [h'.1] at h; cases h

theorem EEnv.find_erase (e : EEnv) (b : Bool) (g : G) : (e.erase b).find (g.erase b) = (e.find g).map (Ext.erase b) := by
  rcases EEnv.find_none_or_call e (e.erase b) b g with ⟨k, rfl⟩ | ⟨h1, h2⟩
  · show (if e.base ≤ k then (e.exts.map (Ext.erase b))[k - e.base]? else none) = _
    rw [List.getElem?_map]
    show _ = (if e.base ≤ k then e.exts[k - e.base]? else none).map _
    split <;> rfl
  · rw [h1, h2]; rfl

/-- admissibility of an extension at nesting flag `u` (`u = true`: referenced under a decoration) -/
def Ext.adm (b dr u : Bool) : Ext → Bool
  | .pratt atom ops => atom.adm true b dr u && ops.all (fun op => op.parser.adm true b dr u)
  | .nested a c => a.adm true b dr u && c.adm true b dr u

/-- every extension is admissible where it may be referenced: anywhere outside decorations; under a decoration only if `dr` -/
def EEnv.Adm (b dr : Bool) (e : EEnv) : Prop :=
  ∀ x ∈ e.exts, ∀ u : Bool, (u = false ∨ dr = true) → x.adm b dr u = true

theorem G.adm_of_true {s b dr u : Bool} {g : G} (h : s = true → g.adm true b dr u = true) : g.adm s b dr u = true := by
  cases s with
  | false => exact G.adm_weak b dr u g
  | true => exact h rfl

/-- **the extension machine under decoration erasure**: one induction on fuel for the three runners; an extension is entered
    through `call` only, `pratt_go` and `NestedIn::go` keep the relation -/
theorem runE_sim (e : EEnv) (s b dr : Bool) (hx : s = true → e.Adm b dr) (n : Nat) {env1 env2 : Env}
    (he : EnvRel s b dr env1 env2) :
    SimR s b dr env1 env2 (runE e n) (runE (e.erase b) n) ∧ SimN s b dr env1 env2 (nextE e n) (nextE (e.erase b) n) ∧
      SimK s b dr env1 env2 (mkIterE e n) (mkIterE (e.erase b) n) := by
  induction n generalizing env1 env2 with
  | zero => exact ⟨fun _ _ _ _ _ _ _ _ _ => .oof, fun _ _ _ _ _ _ _ _ _ _ => .oof, fun _ _ _ _ _ _ _ _ _ => .oof⟩
  | succ n ih =>
    obtain ⟨hR, hN, hK⟩ := ih he
    refine ⟨fun o u m g st1 st2 hs hg ho => ?_, stepNext_sim he hR hN hK, stepMk_sim he hR hK⟩
    unfold_runs
    rw [EEnv.find_erase]
    cases hf : e.find g with
    | none => exact step_sim he hR hN hK n o u m g st1 st2 hs hg ho
    | some x =>
      obtain ⟨k, rfl⟩ := EEnv.find_call hf
      have hxa (hs' : s = true) : x.adm b dr u = true := by
        subst hs'
        have hg : (!true || !u || dr) = true := hg
        exact hx rfl x (EEnv.find_mem hf) u (by simpa using hg)
      cases x with
      | pratt atom ops =>
        exact prattGo_sim (ok := fun g' => g'.adm s b dr u = true) he.mkSpan
          (fun m' g' a c hok hr => hR o u m' g' a c hr hok ho) m atom ops (G.adm_of_true fun hs' => (band_elim (hxa hs')).1)
          (fun op hop => G.adm_of_true fun hs' => List.all_eq_true.mp (band_elim (hxa hs')).2 op hop) n 0 st1 st2 hs
      | nested a c =>
        exact nestedStep_sim (fun _ _ he' => (ih he').1) he (e.henv a c) u (G.adm_of_true fun hs' => (band_elim (hxa hs')).1)
          (G.adm_of_true fun hs' => (band_elim (hxa hs')).2) ho m hs

/-- all three runners simulated in every related pair of environments -/
def AllSimW (b dr : Bool) (R1 R2 : Runner) (N1 N2 : NextRunner) (K1 K2 : MkRunner) : Prop :=
  ∀ env1 env2, EnvRel false b dr env1 env2 →
    SimR false b dr env1 env2 R1 R2 ∧ SimN false b dr env1 env2 N1 N2 ∧ SimK false b dr env1 env2 K1 K2

/-- **the extension machine under decoration erasure** (every grammar, every table, every token tree) -/
theorem runE_simW (e : EEnv) (b dr : Bool) (n : Nat) :
    AllSimW b dr (runE e n) (runE (e.erase b) n) (nextE e n) (nextE (e.erase b) n) (mkIterE e n) (mkIterE (e.erase b) n) :=
  fun _ _ he => runE_sim e false b dr nofun n he

/-- **C17 for grammars with extensions, every grammar**: erasing the decorations — in the main grammar, in the definitions, in the
    atoms and operator parsers of every Pratt table and in both parsers of every nested parse — never changes acceptance,
    values, the cursor, the inspector, the context, or the number and recording positions of the secondary errors; both runs
    panic / run out of fuel alike, and a failing run leaves a pending error in both -/
theorem runE_decoSim_weak (e : EEnv) (n : Nat) (env : Env) (hm : env.memoOn = false) (hek : env.ek ≠ .empty) (m : Mode) (g : G)
    (st1 st2 : St) (hs : StSimW st1 st2) :
    OutSimW (runE e n env m g st1)
      (runE (e.erase true) n { env with defs := env.defs.map G.eraseDeco } m g.eraseDeco st2) := by
  have := (runE_simW e true false n env _ (envRel_deco false env hm hek false nofun)).1 none false m g st1 st2
    ((StSimW_iff _ _ _).mp hs) (G.adm_weak ..) nofun
  rw [G.erase_true] at this
  exact this.toSimW

theorem parseTopE_decoSim_weak (e : EEnv) (n : Nat) (env : Env) (hm : env.memoOn = false) (hek : env.ek ≠ .empty) (m : Mode)
    (g : G) :
    TopSimW (parseTopE e n env m g)
      (parseTopE (e.erase true) n { env with defs := env.defs.map G.eraseDeco } m g.eraseDeco) := by
  rw [parseTopE_eq_top, parseTopE_eq_top]
  exact topSimW_of_outSimW _ _ (runE_decoSim_weak e n env hm hek m (.thenIgnore g .end_) St.init St.init ⟨rfl, rfl, rfl, rfl⟩)

end Chumsky
