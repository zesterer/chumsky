/-
  Proofs/Lemmas/ErrWf.lean — the errors the machine records tell the truth about the input (C06, third sentence).

  For inputs whose spans are computed from token indices (`slice`, `str`; not `mapped`), the `Rich` error kind
  and every grammar of the class `c06` ∧ `nec` (no empty slice `choice`):

    every pending primary error `l` (and every secondary error) satisfies `LocWf`:
      `l.pos ≤ length`, `span.1 ≤ span.2 ≤ off length`, and for an expected/found reason the span starts at the
      offset of `l.pos` and `found = toks[l.pos]?` (so `found = none` only at the end of input).

  Layout: span arithmetic; `LocWf` and the events that produce it; the priority merge preserves it; the state
  invariant `WfInv` and the state operations; "`WfInv` is kept, successful runs do not move backwards" is closed under
  what `RunInv.lean` asks for, which gives the invariant for every run; top level.
-/
import ChumskyModel.Proofs.Lemmas.AltInv
import ChumskyModel.Proofs.Lemmas.SpanWf
namespace Chumsky

theorem Env.mkSpan_eq {env : Env} (hk : env.kind ≠ .mapped) (i j : Nat) :
    env.mkSpan i j = (env.off i, env.off j) := by
  unfold Env.mkSpan Env.off
  cases h : env.kind with
  | slice => rfl
  | str => rfl
  | mapped => exact absurd h hk

theorem Env.off_mono (env : Env) {i j : Nat} (h : i ≤ j) : env.off i ≤ env.off j := by
  unfold Env.off
  cases env.kind with
  | slice => exact h
  | str => exact strOff_le_of_le _ h
  | mapped => exact h

/-- offsets are injective on positions inside the input (`slice`: identity; `str`: strictly increasing) -/
theorem Env.off_strict (env : Env) {i j : Nat} (h : i < j) (hj : j ≤ env.toks.length) : env.off i < env.off j := by
  unfold Env.off
  cases env.kind with
  | slice => exact h
  | str => exact strOff_lt_of_lt _ h hj
  | mapped => exact h

theorem Env.mkSpan_wf {env : Env} (hk : env.kind ≠ .mapped) {i j : Nat} (hij : i ≤ j)
    (hj : j ≤ env.toks.length) :
    (env.mkSpan i j).1 ≤ (env.mkSpan i j).2 ∧ (env.mkSpan i j).2 ≤ env.off env.toks.length := by
  rw [Env.mkSpan_eq hk]
  exact ⟨env.off_mono hij, env.off_mono hj⟩

theorem getElem?_none_iff_end (env : Env) (p : Nat) : env.toks[p]? = none ↔ env.toks.length ≤ p :=
  List.getElem?_eq_none_iff

/-- a pending/logged error that tells the truth about the input -/
structure LocWf (env : Env) (l : Loc) : Prop where
  pos_le : l.pos ≤ env.toks.length
  ordered : l.err.span.1 ≤ l.err.span.2
  inside : l.err.span.2 ≤ env.off env.toks.length
  /-- expected/found reasons: the span starts at the failure position and `found` is the token there
      (`none` iff end of input) -/
  ef : ∀ exp fo, l.err.reason = .ef exp fo → l.err.span.1 = env.off l.pos ∧ fo = env.toks[l.pos]?

theorem LocWf.found_none {env : Env} {l : Loc} (h : LocWf env l) {exp : List Pat}
    (hr : l.err.reason = .ef exp none) : l.pos = env.toks.length := by
  have := (h.ef exp none hr).2
  have := (getElem?_none_iff_end env l.pos).mp this.symm
  have := h.pos_le
  omega

theorem LocWf.efEvent {env : Env} (hk : env.kind ≠ .mapped) (hek : env.ek = .rich) {p j : Nat} (hpj : p ≤ j)
    (hj : j ≤ env.toks.length) (exp : List Pat) :
    LocWf env ⟨p, env.ek.expectedFound exp env.toks[p]? (env.mkSpan p j)⟩ := by
  rw [hek]
  obtain ⟨h1, h2⟩ := Env.mkSpan_wf hk hpj hj
  refine ⟨by show p ≤ _; omega, h1, h2, ?_⟩
  intro exp' fo hr
  simp only [ErrKind.expectedFound, Reason.ef.injEq] at hr
  refine ⟨?_, hr.2.symm⟩
  show (env.mkSpan p j).1 = env.off p
  rw [Env.mkSpan_eq hk]

theorem LocWf.userEvent {env : Env} (hk : env.kind ≠ .mapped) (hek : env.ek = .rich) {i j p : Nat} (hij : i ≤ j)
    (hj : j ≤ env.toks.length) (hp : p ≤ env.toks.length) (msg : Nat) :
    LocWf env ⟨p, env.ek.userErr (env.mkSpan i j) msg⟩ := by
  rw [hek]
  obtain ⟨h1, h2⟩ := Env.mkSpan_wf hk hij hj
  refine ⟨hp, h1, h2, ?_⟩
  intro exp' fo hr
  simp [ErrKind.userErr] at hr

/-- the pending primary error is well formed -/
def AltWf (env : Env) (st : St) : Prop := ∀ l, st.alt = some l → LocWf env l
/-- every secondary error is well formed -/
def ErrsWf (env : Env) (st : St) : Prop := ∀ l ∈ st.errs, LocWf env l

def OptLocWf (env : Env) (o : Option Loc) : Prop := ∀ l, o = some l → LocWf env l

theorem OptLocWf.none (env : Env) : OptLocWf env none := fun _ h => by cases h
theorem OptLocWf.some {env : Env} {l : Loc} (h : LocWf env l) : OptLocWf env (some l) :=
  fun _ h' => by cases h'; exact h

theorem merge_rich_wf {env : Env} {a : Loc} (ha : LocWf env a) {e : Err} (he : LocWf env ⟨a.pos, e⟩) :
    LocWf env ⟨a.pos, ErrKind.rich.merge a.err e⟩ := by
  refine ⟨ha.pos_le, ha.ordered, ha.inside, ?_⟩
  intro exp fo hr
  have hr : a.err.reason.flatMerge e.reason = .ef exp fo := hr
  cases har : a.err.reason with
  | custom m => rw [har, flatMerge_custom_left] at hr; cases hr
  | ef ea fa =>
    cases her : e.reason with
    | custom m => rw [har, her, flatMerge_ef_custom] at hr; cases hr
    | ef eb fb =>
      obtain ⟨e', he', _⟩ := flatMerge_ef_ef ea eb fa fb
      rw [har, her, he'] at hr
      cases hr
      -- both errors are truthful about the token at the (common) position, so either `found` will do
      obtain ⟨h1, h2⟩ := ha.ef ea fa har
      have h3 : fb = env.toks[a.pos]? := (he.ef eb fb her).2
      exact ⟨h1, by rw [h2, h3, Option.or_self]⟩

theorem mergeAlt_wf {env : Env} (hek : env.ek = .rich) {alt : Option Loc} (ha : OptLocWf env alt) {p : Nat}
    {e : Err} (he : LocWf env ⟨p, e⟩) : OptLocWf env (St.mergeAlt env.ek alt p e) := by
  rw [hek]
  cases alt with
  | none => exact OptLocWf.some he
  | some a =>
    have haw := ha a rfl
    rcases Nat.lt_trichotomy a.pos p with h | h | h
    · rw [mergeAlt_some_lt _ _ _ _ h]; exact OptLocWf.some he
    · rw [mergeAlt_some_eq _ _ _ _ h]; exact OptLocWf.some (merge_rich_wf haw (by rw [h]; exact he))
    · rw [mergeAlt_some_gt _ _ _ _ h]; exact OptLocWf.some haw

theorem mergeEF_rich_wf {env : Env} {a : Loc} (ha : LocWf env a) (exp : List Pat) (found : Option Nat)
    (span : Nat × Nat) (hf : found = env.toks[a.pos]?) :
    LocWf env ⟨a.pos, ErrKind.rich.mergeEF a.err exp found span⟩ := by
  simp only [ErrKind.mergeEF]
  cases har : a.err.reason with
  | custom m => exact ⟨ha.pos_le, ha.ordered, ha.inside, ha.ef⟩
  | ef ea fa =>
    refine ⟨ha.pos_le, ha.ordered, ha.inside, ?_⟩
    intro exp' fo hr
    cases hr
    obtain ⟨h1, h2⟩ := ha.ef ea fa har
    exact ⟨h1, by rw [hf, h2, Option.or_self]⟩

theorem addAlt_altWf {env : Env} (hek : env.ek = .rich) {st : St} (hs : AltWf env st) (exp : List Pat)
    (found : Option Nat) (span : Nat × Nat)
    (hev : LocWf env ⟨st.pos, env.ek.expectedFound exp found span⟩) :
    AltWf env (st.addAlt env exp found span) := by
  unfold AltWf
  rw [St.addAlt_alt env st exp found span (by rw [hek]; decide)]
  cases hsa : st.alt with
  | none => exact OptLocWf.some hev
  | some a =>
    simp only []
    split
    · next h =>
      have hf : found = env.toks[a.pos]? := by rw [h]; rw [hek] at hev; exact (hev.ef exp found rfl).2
      rw [hek]
      exact OptLocWf.some (mergeEF_rich_wf (hs a hsa) exp found span hf)
    · exact mergeAlt_wf hek (OptLocWf.some (hs a hsa)) hev

theorem addAltErr_altWf {env : Env} (hek : env.ek = .rich) {st : St} (hs : AltWf env st) {p : Nat} {e : Err}
    (hev : LocWf env ⟨p, e⟩) : AltWf env (st.addAltErr env p e) := by
  unfold AltWf
  rw [St.addAltErr_alt (by rw [hek]; decide)]
  exact mergeAlt_wf hek hs hev

theorem readdAlt_altWf {env : Env} (hek : env.ek = .rich) {st : St} (hs : AltWf env st) {new : Option Loc}
    (hn : OptLocWf env new) : AltWf env (St.readdAlt env st new) := by
  cases new with
  | none => exact hs
  | some n =>
    unfold AltWf
    rw [St.readdAlt_alt (by rw [hek]; decide)]
    exact mergeAlt_wf hek hs (hn n rfl)

/-- the cursor is inside the input, the pending error and all secondary errors are well formed -/
structure WfInv (env : Env) (st : St) : Prop where
  pos : st.pos ≤ env.toks.length
  alt : AltWf env st
  errs : ErrsWf env st

theorem WfInv.init (env : Env) : WfInv env St.init :=
  ⟨Nat.zero_le _, fun _ h => (by cases h), fun _ h => (by cases h)⟩

theorem AltWf.congr {env : Env} {st st' : St} (h : AltWf env st) (ha : st'.alt = st.alt) : AltWf env st' := by
  unfold AltWf; rw [ha]; exact h
theorem ErrsWf.congr {env : Env} {st st' : St} (h : ErrsWf env st) (he : st'.errs = st.errs) : ErrsWf env st' := by
  unfold ErrsWf; rw [he]; exact h

theorem WfInv.congr {env : Env} {st st' : St} (h : WfInv env st) (hp : st'.pos = st.pos)
    (ha : st'.alt = st.alt) (he : st'.errs = st.errs) : WfInv env st' :=
  ⟨hp ▸ h.pos, h.alt.congr ha, h.errs.congr he⟩

theorem WfInv.rewind {env : Env} {st : St} (h : WfInv env st) (c : Chk) (hc : c.pos ≤ env.toks.length) :
    WfInv env (st.rewind c) :=
  ⟨hc, h.alt, fun l hl => h.errs l (List.mem_of_mem_take hl)⟩

theorem WfInv.rewindInput {env : Env} {st : St} (h : WfInv env st) (c : Chk) (hc : c.pos ≤ env.toks.length) :
    WfInv env (st.rewindInput c) :=
  ⟨hc, h.alt, h.errs⟩

/-- sheltering: run from `alt := none` -/
theorem WfInv.noAlt {env : Env} {st : St} (h : WfInv env st) : WfInv env { st with alt := none } :=
  ⟨h.pos, fun _ h' => (by cases h'), h.errs⟩

/-- … and put the old pending error back -/
theorem WfInv.withAlt {env : Env} {st st1 : St} (h : WfInv env st) (h1 : WfInv env st1) :
    WfInv env { st1 with alt := st.alt } :=
  ⟨h1.pos, h.alt, h1.errs⟩

theorem St.next_pos_ge (env : Env) (st : St) : st.pos ≤ (st.next env).2.pos := by
  unfold St.next; split <;> simp
theorem St.next_pos_le (env : Env) (st : St) (h : st.pos ≤ env.toks.length) :
    (st.next env).2.pos ≤ env.toks.length := by
  unfold St.next
  split
  · next t ht => exact (List.getElem?_eq_some_iff.mp ht).1
  · exact h

theorem WfInv.next {env : Env} {st : St} (h : WfInv env st) : WfInv env (st.next env).2 :=
  ⟨St.next_pos_le env st h.pos, h.alt.congr (next_alt env st), h.errs.congr (next_errs env st)⟩

theorem WfInv.addAlt {env : Env} (hek : env.ek = .rich) {st : St} (hs : WfInv env st) (exp : List Pat)
    (found : Option Nat) (span : Nat × Nat)
    (hev : LocWf env ⟨st.pos, env.ek.expectedFound exp found span⟩) :
    WfInv env (st.addAlt env exp found span) :=
  ⟨addAlt_pos env st .. ▸ hs.pos, addAlt_altWf hek hs.alt exp found span hev, hs.errs.congr (addAlt_errs env st ..)⟩

theorem WfInv.addAltErr {env : Env} (hek : env.ek = .rich) {st : St} (hs : WfInv env st) {p : Nat} {e : Err}
    (hev : LocWf env ⟨p, e⟩) : WfInv env (st.addAltErr env p e) :=
  ⟨addAltErr_pos env st .. ▸ hs.pos, addAltErr_altWf hek hs.alt hev, hs.errs.congr (addAltErr_errs env st ..)⟩

theorem WfInv.readdAlt {env : Env} (hek : env.ek = .rich) {st : St} (hs : WfInv env st) {new : Option Loc}
    (hn : OptLocWf env new) : WfInv env (St.readdAlt env st new) :=
  ⟨readdAlt_pos env st new ▸ hs.pos, readdAlt_altWf hek hs.alt hn, hs.errs.congr (readdAlt_errs env st new)⟩

/-! ### result predicates (relative to the start position `p`: successful runs do not move backwards) -/

def Out.WF (env : Env) (p : Nat) : Out → Prop
  | .ok _ st' => p ≤ st'.pos ∧ WfInv env st'
  | .fail st' => WfInv env st'
  | _ => True

def ItOut.WF (env : Env) (p : Nat) : ItOut → Prop
  | .some _ st' _ => p ≤ st'.pos ∧ WfInv env st'
  | .done st' _ => p ≤ st'.pos ∧ WfInv env st'
  | .fail st' => WfInv env st'
  | _ => True

def MkOut.WF (env : Env) (p : Nat) : MkOut → Prop
  | .ok _ st' => p ≤ st'.pos ∧ WfInv env st'
  | .fail st' => WfInv env st'
  | _ => True

theorem Out.WF.mono {env : Env} {p q : Nat} {o : Out} (hpq : p ≤ q) (h : o.WF env q) : o.WF env p := by
  cases o with
  | ok v st' => exact ⟨Nat.le_trans hpq h.1, h.2⟩
  | fail st' => exact h
  | _ => trivial

theorem ItOut.WF.mono {env : Env} {p q : Nat} {o : ItOut} (hpq : p ≤ q) (h : o.WF env q) : o.WF env p := by
  cases o with
  | some v st' i => exact ⟨Nat.le_trans hpq h.1, h.2⟩
  | done st' i => exact ⟨Nat.le_trans hpq h.1, h.2⟩
  | fail st' => exact h
  | _ => trivial

theorem MkOut.WF.mono {env : Env} {p q : Nat} {o : MkOut} (hpq : p ≤ q) (h : o.WF env q) : o.WF env p := by
  cases o with
  | ok i st' => exact ⟨Nat.le_trans hpq h.1, h.2⟩
  | fail st' => exact h
  | _ => trivial

/-- a run from a state satisfying `WfInv` ends in one, and does not move backwards when it succeeds; rewinding to
    the start is harmless because the start position is inside the input -/
def wfRunRel (env : Env) : RunRel where
  ok st st' := WfInv env st → st.pos ≤ st'.pos ∧ WfInv env st'
  fail st st' := WfInv env st → WfInv env st'
  nec := true
  refl _ hs := ⟨Nat.le_refl _, hs⟩
  trans h1 h2 hs := ⟨Nat.le_trans (h1 hs).1 (h2 (h1 hs).2).1, (h2 (h1 hs).2).2⟩
  transF h1 h2 hs := h2 (h1 hs).2
  okSame h s hs := ⟨s.1 ▸ (h hs).1, (h hs).2.congr s.1 s.2.2.1 s.2.1⟩
  failSame h s hs := (h hs).congr s.1 s.2.2.1 s.2.1
  recover h hs := ⟨Nat.le_refl _, (h hs).rewind _ hs.pos⟩
  failRewind h hs := (h hs).rewind _ hs.pos
  rewindInput hb hc hs := ⟨(hb hs).1, (hc hs).2.rewindInput _ (hb hs).2.pos⟩

/-- the events: an expected/found error reports the token at the start of what was consumed (`LocWf.efEvent`), a
    user error has the span of what was consumed (`LocWf.userEvent`) -/
def wfRunInv {env : Env} (hk : env.kind ≠ .mapped) (hek : env.ek = .rich) : RunInv env where
  toRunRel := wfRunRel env
  pull st hs := ⟨St.next_pos_ge env st, hs.next⟩
  expected exp h hs :=
    WfInv.addAlt hek ((h hs).2.rewind _ hs.pos) _ _ _ (LocWf.efEvent hk hek (h hs).1 (h hs).2.pos exp)
  user msg h hp hs :=
    (h hs).2.addAltErr hek
      (LocWf.userEvent hk hek (h hs).1 (h hs).2.pos (hp.elim (· ▸ hs.pos) (· ▸ (h hs).2.pos)) msg)
  emitted k msg h hs := by
    obtain ⟨hp, i1⟩ := h hs
    refine ⟨hp, i1.pos, i1.alt, fun l hl => ?_⟩
    rcases List.mem_append.mp hl with hl | hl
    · exact i1.errs l hl
    · rw [(List.mem_replicate.mp hl).2]
      exact LocWf.userEvent hk hek hp i1.pos hs.pos msg
  shelterOk h hs :=
    ⟨by rw [readdAlt_pos]; exact (h hs.noAlt).1, (hs.withAlt (h hs.noAlt).2).readdAlt hek (h hs.noAlt).2.alt⟩
  shelterFail h hs := (hs.withAlt (h hs.noAlt)).readdAlt hek (h hs.noAlt).alt
  shelterUser {st st1} msg h hs :=
    WfInv.addAltErr hek (st := { st1 with alt := st.alt, log := st.log })
      ⟨(h hs.noAlt).2.pos, hs.alt, (h hs.noAlt).2.errs⟩
      (LocWf.userEvent hk hek (h hs.noAlt).1 (h hs.noAlt).2.pos hs.pos msg)
  emptyChoice h := nomatch h

theorem Out.Sat.wf {env : Env} {st : St} {o : Out} (h : o.Sat (wfRunRel env) st) (hs : WfInv env st) :
    o.WF env st.pos := by
  cases o <;> first | exact h hs | trivial
theorem ItOut.Sat.wf {env : Env} {st : St} {o : ItOut} (h : o.Sat (wfRunRel env) st) (hs : WfInv env st) :
    o.WF env st.pos := by
  cases o <;> first | exact h hs | trivial
theorem MkOut.Sat.wf {env : Env} {st : St} {o : MkOut} (h : o.Sat (wfRunRel env) st) (hs : WfInv env st) :
    o.WF env st.pos := by
  cases o <;> first | exact h hs | trivial

theorem run_WF_all (env : Env) (hk : env.kind ≠ .mapped) (hek : env.ek = .rich)
    (hdefs : ∀ d ∈ env.defs, d.c06 = true) (hdefsN : ∀ d ∈ env.defs, d.nec = true) (n : Nat) :
    SatR (wfRunRel env) env (run n) ∧ SatN (wfRunRel env) env (next n) ∧ SatK (wfRunRel env) env (mkIter n) :=
  run_sat (wfRunInv hk hek) (fun d hd => G.cls_true.mpr ⟨hdefs d hd, hdefsN d hd⟩) n

/-- **the well-formedness invariant**: from a state whose cursor is inside the input and whose pending and
    secondary errors are well formed, every run of a grammar of the class ends (successfully or not) in such a
    state; successful runs do not move the cursor backwards -/
theorem run_wf (n : Nat) (env : Env) (hk : env.kind ≠ .mapped) (hek : env.ek = .rich)
    (hdefs : ∀ d ∈ env.defs, d.c06 = true) (hdefsN : ∀ d ∈ env.defs, d.nec = true)
    (m : Mode) (g : G) (hg : g.c06 = true) (hn : g.nec = true) (st : St) (hs : WfInv env st) :
    match run n env m g st with
    | .ok _ st' => st.pos ≤ st'.pos ∧ WfInv env st'
    | .fail st' => WfInv env st'
    | _ => True :=
  ((run_WF_all env hk hek hdefs hdefsN n).1 m g st (G.cls_true.mpr ⟨hg, hn⟩)).wf hs

theorem next_wf (n : Nat) (env : Env) (hk : env.kind ≠ .mapped) (hek : env.ek = .rich)
    (hdefs : ∀ d ∈ env.defs, d.c06 = true) (hdefsN : ∀ d ∈ env.defs, d.nec = true)
    (m : Mode) (it : It) (hit : it.c06 = true) (hin : it.nec = true) (st : St) (ist : ItSt) (hs : WfInv env st) :
    match next n env m it st ist with
    | .some _ st' _ => st.pos ≤ st'.pos ∧ WfInv env st'
    | .done st' _ => st.pos ≤ st'.pos ∧ WfInv env st'
    | .fail st' => WfInv env st'
    | _ => True :=
  ((run_WF_all env hk hek hdefs hdefsN n).2.1 m it st ist (It.cls_true.mpr ⟨hit, hin⟩)).wf hs

theorem mkIter_wf (n : Nat) (env : Env) (hk : env.kind ≠ .mapped) (hek : env.ek = .rich)
    (hdefs : ∀ d ∈ env.defs, d.c06 = true) (hdefsN : ∀ d ∈ env.defs, d.nec = true)
    (m : Mode) (it : It) (hit : it.c06 = true) (hin : it.nec = true) (st : St) (hs : WfInv env st) :
    match mkIter n env m it st with
    | .ok _ st' => st.pos ≤ st'.pos ∧ WfInv env st'
    | .fail st' => WfInv env st'
    | _ => True :=
  ((run_WF_all env hk hek hdefs hdefsN n).2.2 m it st (It.cls_true.mpr ⟨hit, hin⟩)).wf hs

theorem run_altWf (n : Nat) (env : Env) (hk : env.kind ≠ .mapped) (hek : env.ek = .rich)
    (hdefs : ∀ d ∈ env.defs, d.c06 = true) (hdefsN : ∀ d ∈ env.defs, d.nec = true)
    (m : Mode) (g : G) (hg : g.c06 = true) (hn : g.nec = true) (st : St) (hp : st.pos ≤ env.toks.length)
    (ha : AltWf env st) (he : ErrsWf env st) :
    match run n env m g st with
    | .ok _ st' => st'.pos ≤ env.toks.length ∧ AltWf env st' ∧ ErrsWf env st'
    | .fail st' => st'.pos ≤ env.toks.length ∧ AltWf env st' ∧ ErrsWf env st'
    | _ => True := by
  have h := run_wf n env hk hek hdefs hdefsN m g hg hn st ⟨hp, ha, he⟩
  generalize run n env m g st = o at h ⊢
  cases o with
  | ok v st' => exact ⟨h.2.pos, h.2.alt, h.2.errs⟩
  | fail st' => exact ⟨h.pos, h.alt, h.errs⟩
  | _ => trivial

theorem parseTop_final_wf (n : Nat) (env : Env) (hk : env.kind ≠ .mapped) (hek : env.ek = .rich)
    (hdefs : ∀ d ∈ env.defs, d.c06 = true) (hdefsN : ∀ d ∈ env.defs, d.nec = true)
    (m : Mode) (g : G) (hg : g.c06 = true) (hn : g.nec = true) (r : ParseResult) (f : St)
    (h : parseTop n env m g = .result r f) : WfInv env f := by
  have hw := run_wf n env hk hek hdefs hdefsN m (.thenIgnore g .end_) (Bool.and_eq_true_iff.mpr ⟨hg, rfl⟩)
    (Bool.and_eq_true_iff.mpr ⟨hn, rfl⟩) St.init (WfInv.init env)
  rcases Out.top_result (parseTop_eq_top _ _ _ _ ▸ h) with ⟨v, hrun, _⟩ | ⟨hrun, _⟩ <;> rw [hrun] at hw
  · exact hw.2
  · exact hw

/-- **C06, third sentence (core)**: when the parse fails, the last reported error is the pending error `l` of the
    final state and it is well formed; so are all the secondary errors reported before it -/
theorem parseTop_primary_wf (n : Nat) (env : Env) (hk : env.kind ≠ .mapped) (hek : env.ek = .rich)
    (hdefs : ∀ d ∈ env.defs, d.c06 = true) (hdefsN : ∀ d ∈ env.defs, d.nec = true)
    (m : Mode) (g : G) (hg : g.c06 = true) (hn : g.nec = true) (r : ParseResult) (f : St)
    (h : parseTop n env m g = .result r f) (ho : r.output = none) :
    ∃ l, f.alt = some l ∧ r.errs = f.errs.map (·.err) ++ [l.err] ∧ LocWf env l ∧ ∀ s ∈ f.errs, LocWf env s := by
  have hw := parseTop_final_wf n env hk hek hdefs hdefsN m g hg hn r f h
  obtain ⟨l, l', hl, _, _, hr⟩ :=
    parseTop_primary_error n env (by rw [hek]; decide) hdefs m g hg r f h ho
  exact ⟨l, hl, hr, hw.alt l hl, hw.errs⟩

/-- **C06, third sentence**: the primary error `e` (the last element of `errs`) of a failed parse has a span that
    lies inside the input with start ≤ end; if its reason is expected/found, the span starts at (the offset of) a
    position `p ≤ length`, `found` is the token at `p`, and `found = none` only when `p` is the end of input — in
    which case the span is the empty span at the end of input -/
theorem c06_primary_span_found (n : Nat) (env : Env) (hk : env.kind ≠ .mapped) (hek : env.ek = .rich)
    (hdefs : ∀ d ∈ env.defs, d.c06 = true) (hdefsN : ∀ d ∈ env.defs, d.nec = true)
    (m : Mode) (g : G) (hg : g.c06 = true) (hn : g.nec = true) (r : ParseResult) (f : St)
    (h : parseTop n env m g = .result r f) (ho : r.output = none) :
    ∃ e, r.errs.getLast? = some e ∧
      e.span.1 ≤ e.span.2 ∧ e.span.2 ≤ env.off env.toks.length ∧
      ∀ exp fo, e.reason = .ef exp fo →
        ∃ p, p ≤ env.toks.length ∧ e.span.1 = env.off p ∧ fo = env.toks[p]? ∧
          (fo = none → p = env.toks.length ∧ e.span = (env.off env.toks.length, env.off env.toks.length)) := by
  obtain ⟨l, hl, hr, hw, _⟩ := parseTop_primary_wf n env hk hek hdefs hdefsN m g hg hn r f h ho
  refine ⟨l.err, by rw [hr]; simp, hw.ordered, hw.inside, ?_⟩
  intro exp fo hre
  obtain ⟨h1, h2⟩ := hw.ef exp fo hre
  refine ⟨l.pos, hw.pos_le, h1, h2, ?_⟩
  intro hfo
  subst hfo
  have hp := hw.found_none hre
  refine ⟨hp, ?_⟩
  have ho1 := hw.ordered
  have ho2 := hw.inside
  rw [hp] at h1
  exact Prod.ext h1 (by omega)

/-- every reported error (secondary or primary, successful parse or not) has an ordered span inside the input -/
theorem parseTop_all_spans (n : Nat) (env : Env) (hk : env.kind ≠ .mapped) (hek : env.ek = .rich)
    (hdefs : ∀ d ∈ env.defs, d.c06 = true) (hdefsN : ∀ d ∈ env.defs, d.nec = true)
    (m : Mode) (g : G) (hg : g.c06 = true) (hn : g.nec = true) (r : ParseResult) (f : St)
    (h : parseTop n env m g = .result r f) :
    ∀ e ∈ r.errs, e.span.1 ≤ e.span.2 ∧ e.span.2 ≤ env.off env.toks.length := by
  have hw := parseTop_final_wf n env hk hek hdefs hdefsN m g hg hn r f h
  have hsec : ∀ e ∈ f.errs.map (·.err), e.span.1 ≤ e.span.2 ∧ e.span.2 ≤ env.off env.toks.length := by
    intro e he
    obtain ⟨s, hs, rfl⟩ := List.mem_map.mp he
    exact ⟨(hw.errs s hs).ordered, (hw.errs s hs).inside⟩
  cases hout : r.output with
  | none =>
    obtain ⟨l, hl, hr, hlw, _⟩ := parseTop_primary_wf n env hk hek hdefs hdefsN m g hg hn r f h hout
    intro e he
    rw [hr] at he
    rcases List.mem_append.mp he with he | he
    · exact hsec e he
    · rw [List.mem_singleton.mp he]; exact ⟨hlw.ordered, hlw.inside⟩
  | some v =>
    rcases Out.top_result (parseTop_eq_top _ _ _ _ ▸ h) with ⟨v', _, rfl⟩ | ⟨_, rfl⟩
    · exact hsec
    · cases hout

/-! ### witnesses: why the class is what it is (all on the slice input `[7, 8]` / `[7]`, `Rich`)

  * `.choice .slice []` (excluded by `nec`): `found = none` at position 0 of a two-token input — the only such
    site inside `c06` (everything else in `c06` is covered by `run_wf`).
  * outside `c06`: `labelled` / `mapErr` over a custom error (`labelWith` turns it into `expected [label], found
    none`), the left-recursion answer of `memoized` (`found = none`, empty span at the cursor), and `not_` (records
    at the position *after* the token it reports: merged into an end-of-input failure it yields the empty span at
    the end of input together with `found = some last-token`). -/

def reportedErrs (t : TopOut) : List Err := match t with | .result r _ => r.errs | _ => []

example : reportedErrs (parseTop 10 { toks := [7, 8] } .emit (.choice .slice []))
    = [⟨(0, 0), .ef [] none, []⟩] := by decide
example : reportedErrs (parseTop 10 { toks := [7, 8] } .emit (.labelled 1 false (.custom (.failNow 3))))
    = [⟨(0, 0), .ef [.label 1] none, []⟩] := by decide
example : reportedErrs (parseTop 10 { toks := [7, 8] } .emit (.mapErr 1 (.custom (.failNow 3))))
    = [⟨(0, 0), .ef [.label 1] none, []⟩] := by decide
example : reportedErrs (parseTop 10 { toks := [7, 8], defs := [.memoized 0 (.call 0)] } .emit (.call 0))
    = [⟨(0, 0), .ef [] none, []⟩] := by decide
example : reportedErrs (parseTop 10 { toks := [7] } .emit (.or_ (.then_ .any .any) (.not_ .empty)))
    = [⟨(1, 1), .ef [.any, .somethingElse] (some 7), []⟩] := by decide
/-- `tryMapWith` (inside the class): the custom error sits at priority position 1 with the span `(0, 1)` of the
    match — it starts *before* its position, but is ordered and inside the input -/
example : reportedErrs (parseTop 10 { toks := [7, 8] } .emit (.tryMapWith ⟨.always, 3, 0⟩ .any))
    = [⟨(0, 1), .custom 3, []⟩] := by decide

#print axioms Env.mkSpan_wf
#print axioms run_wf
#print axioms next_wf
#print axioms mkIter_wf
#print axioms run_altWf
#print axioms parseTop_primary_wf
#print axioms c06_primary_span_found
#print axioms parseTop_all_spans

end Chumsky
