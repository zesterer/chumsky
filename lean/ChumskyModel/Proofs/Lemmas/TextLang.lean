/-
  Proofs/Lemmas/TextLang.lean — the run function of the text parsers (`Text.many` / `Text.skip`) is the longest run of
  characters satisfying the class; the parsers of `Model/Text.lean` read through that: `digits` and the two `ident`s are
  one shape (`headRun`), `int` is "a single zero, else `digits`", `keyword` is its identifier plus a comparison.
-/
import ChumskyModel.Model.Text

namespace Chumsky.Text

/-- length of the longest prefix of `l` whose members satisfy `p` -/
def runLen (p : Nat → Bool) : List Nat → Nat
  | [] => 0
  | c :: cs => if p c then runLen p cs + 1 else 0

theorem runLen_le (p : Nat → Bool) (l : List Nat) : runLen p l ≤ l.length := by
  induction l with
  | nil => exact Nat.le_refl 0
  | cons c cs ih =>
    simp only [runLen]
    split
    · exact Nat.succ_le_succ ih
    · exact Nat.zero_le _

theorem runLen_drop_le (p : Nat → Bool) (toks : List Nat) (pos : Nat) :
    runLen p (toks.drop pos) ≤ toks.length - pos :=
  List.length_drop ▸ runLen_le p (toks.drop pos)

/-- the run from `pos` read off `toks[pos]?`, the way `many` inspects the input -/
theorem runLen_drop (p : Nat → Bool) (toks : List Nat) (pos : Nat) :
    runLen p (toks.drop pos) =
      match toks[pos]? with
      | some c => if p c then runLen p (toks.drop (pos + 1)) + 1 else 0
      | none => 0 := by
  rw [← List.head?_drop, ← List.tail_drop]
  cases toks.drop pos <;> rfl

theorem many_capped (p : Nat → Bool) (toks : List Nat) :
    ∀ n pos, many p toks n pos = pos + min n (runLen p (toks.drop pos)) := by
  intro n
  induction n with
  | zero => intro pos; simp [many]
  | succ n ih =>
    intro pos
    rw [many, runLen_drop]
    cases toks[pos]? with
    | none => rfl
    | some c =>
      simp only
      split
      · rw [ih, Nat.add_min_add_right, Nat.add_right_comm, Nat.add_assoc]
      · rfl

/-- **bounded whitespace counts characters**: the match ends after `min hi (run length)` characters and exists iff that is
    at least `lo` -/
theorem boundedRun_eq (p : Nat → Bool) (lo hi : Nat) (toks : List Nat) (pos : Nat) :
    boundedRun p lo hi toks pos =
      if lo ≤ min hi (runLen p (toks.drop pos)) then some (pos + min hi (runLen p (toks.drop pos))) else none := by
  simp only [boundedRun, many_capped, Nat.add_sub_cancel_left]

/-- the budget `skip` gives `many` exceeds what is left of the input, so `skip` takes the whole run -/
theorem skip_eq (p : Nat → Bool) (toks : List Nat) (pos : Nat) :
    skip p toks pos = pos + runLen p (toks.drop pos) := by
  rw [skip, many_capped, Nat.min_eq_right (Nat.le_succ_of_le (runLen_drop_le p toks pos))]

theorem skip_ge (p : Nat → Bool) (toks : List Nat) (pos : Nat) : pos ≤ skip p toks pos := by
  rw [skip_eq]; exact Nat.le_add_right _ _

theorem skip_le (p : Nat → Bool) (toks : List Nat) (pos : Nat) (h : pos ≤ toks.length) :
    skip p toks pos ≤ toks.length := by
  rw [skip_eq]; exact Nat.add_le_of_le_sub' h (runLen_drop_le p toks pos)

theorem runLen_all (p : Nat → Bool) (l : List Nat) : (l.take (runLen p l)).all p = true := by
  induction l with
  | nil => rfl
  | cons c cs ih => by_cases hp : p c <;> simp [runLen, hp, ih]

theorem runLen_stop (p : Nat → Bool) (l : List Nat) (c : Nat) (h : l[runLen p l]? = some c) : p c = false := by
  induction l with
  | nil => simp [runLen] at h
  | cons d ds ih =>
    by_cases hp : p d <;> simp only [runLen, hp, if_true, Bool.false_eq_true, if_false] at h
    · exact ih h
    · rw [List.getElem?_cons_zero, Option.some.injEq] at h
      rw [← h]; simpa using hp

theorem runLen_eq_length_iff (p : Nat → Bool) (l : List Nat) : runLen p l = l.length ↔ l.all p = true := by
  induction l with
  | nil => simp [runLen]
  | cons c cs ih => by_cases hp : p c <;> simp [runLen, hp, ih]

theorem runLen_congr (p q : Nat → Bool) (l : List Nat) (h : ∀ c ∈ l, p c = q c) : runLen p l = runLen q l := by
  induction l with
  | nil => rfl
  | cons c cs ih =>
    simp only [runLen]
    rw [h c (by simp), ih (fun d hd => h d (by simp [hd]))]

theorem runLen_append_of_all (p : Nat → Bool) (a b : List Nat) (h : a.all p = true) :
    runLen p (a ++ b) = a.length + runLen p b := by
  induction a with
  | nil => simp
  | cons c cs ih =>
    simp only [List.all_cons, Bool.and_eq_true] at h
    simp only [List.cons_append, runLen, h.1, if_true, List.length_cons, ih h.2]
    omega

theorem skip_all (p : Nat → Bool) (toks : List Nat) (pos : Nat) :
    ((toks.drop pos).take (skip p toks pos - pos)).all p = true := by
  rw [skip_eq, Nat.add_sub_cancel_left]; exact runLen_all _ _

theorem skip_stop (p : Nat → Bool) (toks : List Nat) (pos c : Nat) (h : toks[skip p toks pos]? = some c) :
    p c = false := by
  rw [skip_eq, ← List.getElem?_drop] at h
  exact runLen_stop p _ c h

theorem skip_append_eq_length_iff (p : Nat → Bool) (a b : List Nat) :
    skip p (a ++ b) a.length = (a ++ b).length ↔ b.all p = true := by
  rw [skip_eq, List.drop_left, List.length_append, Nat.add_left_cancel_iff, runLen_eq_length_iff]

theorem skip_congr (p q : Nat → Bool) (toks : List Nat) (pos : Nat) (h : ∀ c ∈ toks, p c = q c) :
    skip p toks pos = skip q toks pos := by
  rw [skip_eq, skip_eq, runLen_congr p q _ (fun c hc => h c (List.mem_of_mem_drop hc))]

/-- one character of class `start`, then the longest run of `cont`: `digits`, `ascii::ident` and `unicode::ident` unfold
    to this -/
def headRun (start cont : Nat → Bool) (toks : List Nat) (pos : Nat) : Option Nat :=
  match toks[pos]? with
  | some c => if start c then some (skip cont toks (pos + 1)) else none
  | none => none

theorem digits_eq_headRun (cc : CC) (r : Nat) : digits cc r = headRun (cc.isDigit r) (cc.isDigit r) := rfl

theorem headRun_eq_some {start cont : Nat → Bool} {toks : List Nat} {pos e : Nat} :
    headRun start cont toks pos = some e ↔
      ∃ c, toks[pos]? = some c ∧ start c = true ∧ skip cont toks (pos + 1) = e := by
  unfold headRun
  cases toks[pos]? with
  | none => simp
  | some c => by_cases hs : start c <;> simp [hs]

theorem headRun_lt {start cont : Nat → Bool} {toks : List Nat} {pos e : Nat}
    (h : headRun start cont toks pos = some e) : pos < e := by
  obtain ⟨_, _, _, rfl⟩ := headRun_eq_some.mp h
  exact skip_ge _ _ _

theorem headRun_stop {start cont : Nat → Bool} {toks : List Nat} {pos e c : Nat}
    (h : headRun start cont toks pos = some e) (hc : toks[e]? = some c) : cont c = false := by
  obtain ⟨_, _, _, rfl⟩ := headRun_eq_some.mp h
  exact skip_stop _ _ _ _ hc

theorem headRun_congr {start cont start' cont' : Nat → Bool} {toks : List Nat} (pos : Nat)
    (hs : ∀ c ∈ toks, start c = start' c) (hc : ∀ c ∈ toks, cont c = cont' c) :
    headRun start cont toks pos = headRun start' cont' toks pos := by
  unfold headRun
  cases hg : toks[pos]? with
  | none => rfl
  | some c => simp only [hs c (List.mem_of_getElem? hg), skip_congr _ _ toks _ hc]

theorem int_eq (cc : CC) (r : Nat) (toks : List Nat) (pos : Nat) :
    int cc r toks pos = if toks[pos]? = some cc.digitZero then some (pos + 1) else digits cc r toks pos := by
  unfold int digits
  cases toks[pos]? with
  | none => rfl
  | some c =>
    by_cases hz : c = cc.digitZero
    · simp [hz]
    · cases hd : cc.isDigit r c <;> simp [hz, hd]

theorem int_congr {cc cc' : CC} (r : Nat) {toks : List Nat} (pos : Nat) (hz : cc.digitZero = cc'.digitZero)
    (hd : ∀ c ∈ toks, cc.isDigit r c = cc'.isDigit r c) : int cc r toks pos = int cc' r toks pos := by
  rw [int_eq, int_eq, hz, digits_eq_headRun, digits_eq_headRun, headRun_congr pos hd hd]

theorem newline_congr {cc cc' : CC} {toks : List Nat} (pos : Nat) (ha : ∀ c ∈ toks, cc.toAscii c = cc'.toAscii c)
    (hn : ∀ c ∈ toks, cc.isNewline c = cc'.isNewline c) : newline cc toks pos = newline cc' toks pos := by
  unfold newline
  cases hg : toks[pos]? with
  | none => rfl
  | some c =>
    simp only [ha c (List.mem_of_getElem? hg), hn c (List.mem_of_getElem? hg)]
    cases hg' : toks[pos + 1]? with
    | none => rfl
    | some d => simp only [ha d (List.mem_of_getElem? hg')]

theorem padded_congr {cc cc' : CC} {p p' : List Nat → Nat → Option Nat} {toks : List Nat} (pos : Nat)
    (hw : ∀ c ∈ toks, cc.isWs c = cc'.isWs c) (hp : ∀ i, p toks i = p' toks i) :
    padded cc p toks pos = padded cc' p' toks pos := by
  simp only [padded, skip_congr _ _ toks _ hw, hp]

theorem keywordOf_eq_some {ident : List Nat → Nat → Option Nat} {k toks : List Nat} {pos e : Nat} :
    keywordOf ident k toks pos = some e ↔ ident toks pos = some e ∧ (toks.drop pos).take (e - pos) = k := by
  unfold keywordOf
  cases ident toks pos with
  | none => simp
  | some e' =>
    simp only
    constructor
    · intro h
      split at h <;> cases h
      exact ⟨rfl, eq_of_beq ‹_›⟩
    · rintro ⟨h, hk⟩
      cases h
      rw [if_pos (beq_iff_eq.mpr hk)]

end Chumsky.Text
