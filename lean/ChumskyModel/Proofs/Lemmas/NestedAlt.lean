/-
  C06 / C16 for `nested_in` at any position of any grammar: `NestedIn::go` preserves the pending-error invariant of the OUTER
  parse. The inner parse keeps its own pending error (a fresh one); what reaches the outer parse is one failure event — the
  inner pending error re-homed at the outer cursor — merged by the priority rule with what was pending. So the outer
  pending error stays (≈) the summary of the outer failure log, in which a nested parse that left an error appears as that
  single event at the position just after the group token, and a failing nested parse always logs one.
-/
import ChumskyModel.Model.Nested
import ChumskyModel.Proofs.Lemmas.AltInv
namespace Chumsky

/-- a failing run ends with a pending error: it logged an event -/
theorem AltRelF.alt_isSome {ek : ErrKind} {s0 f : St} (h : AltRelF ek s0 f) : f.alt.isSome = true := by
  obtain ⟨evs, hne, _, he⟩ := h.log
  obtain ⟨x, hx⟩ := Option.isSome_iff_exists.mp (foldAlt_isSome (ek := ek) (alt := s0.alt) (Or.inl hne))
  rw [hx] at he
  cases hf : f.alt with
  | some a => rfl
  | none => rw [hf] at he; exact he.elim

theorem nestedMerge_AR_ok {env : Env} (hek : env.ek ≠ .empty) (st1 si : St) :
    AltRel env.ek st1 (nestedMerge env st1 si) := by
  unfold nestedMerge
  cases si.alt with
  | none => exact AltRel.of_eq rfl rfl
  | some a =>
    dsimp only
    exact (addAltErr_F' (st0 := st1)
      (st := { st1 with errs := st1.errs ++ rehome st1.pos si.errs, insp := si.insp }) hek st1.pos a.err rfl rfl).toRel

theorem nestedMerge_AR_fail {env : Env} (hek : env.ek ≠ .empty) (st1 si : St) (hs : si.alt.isSome = true) :
    AltRelF env.ek st1 (nestedMerge env st1 si) := by
  unfold nestedMerge
  cases ha : si.alt with
  | none => rw [ha] at hs; cases hs
  | some a =>
    dsimp only
    exact addAltErr_F' (st0 := st1)
      (st := { st1 with errs := st1.errs ++ rehome st1.pos si.errs, insp := si.insp }) hek st1.pos a.err rfl rfl

theorem innerThenEndM_AR {ek : ErrKind} {s0 : St} {ra : Out} {rend : St → Out} (ha : ra.AR ek s0)
    (hend : ∀ si1, (rend si1).AR ek si1) : (innerThenEndM ra rend).AR ek s0 :=
  ha.andThen fun _ si1 => (hend si1).andThen fun _ si2 => AltRel.refl _ si2

theorem Out.AR.nestedMerge {env : Env} (hek : env.ek ≠ .empty) {st st1 inner0 : St} {ro : Out}
    (h1 : AltRel env.ek st st1) (hin : ro.AR env.ek inner0) :
    (match (generalizing := false) ro with
      | .ok va si => .ok va (nestedMerge env st1 si)
      | .fail si => .fail (nestedMerge env st1 si)
      | .panic w => .panic w
      | .oof => .oof : Out).AR env.ek st := by
  cases ro with
  | ok va si => exact AltRel.trans h1 (nestedMerge_AR_ok hek st1 si)
  | fail si => exact AltRel.transF h1 (nestedMerge_AR_fail hek st1 si (AltRelF.alt_isSome hin))
  | _ => trivial

/-- **the pending-error invariant through `NestedIn::go`** -/
theorem nestedStep_AR {R : Runner} (h : HEnv) (env : Env) (hek : env.ek ≠ .empty)
    (hR : ∀ env', env'.ek = env.ek → env'.defs = env.defs → ARR env' R) (ha : h.a.c06 = true) (hb : h.b.c06 = true)
    (m : Mode) (st : St) : (nestedStepM R h env m st).AR env.ek st := by
  unfold nestedStepM
  have h1 := hR env rfl rfl .emit h.b st hb
  generalize R env .emit h.b st = o at h1 ⊢
  cases o with
  | ok vb st1 =>
    dsimp only
    cases h.kidsOf vb with
    | none => trivial
    | some kids =>
      have hRi : ARR (h.innerEnv env kids) R := hR _ rfl rfl
      dsimp only
      exact Out.AR.nestedMerge hek h1 (innerThenEndM_AR (hRi m h.a _ ha) fun si1 => hRi .check .end_ si1 rfl)
  | fail st1 => exact h1
  | _ => trivial

end Chumsky
