/-
  C20 for `nested_in` anywhere in a grammar (`HEnv`) and for several extensions at once (`EEnv`: Pratt expressions inside
  nested parses inside Pratt atoms …): `NestedIn::go` adds no panic site of its own — a panic, if any, is one of the reference
  semantics' panic sites reached inside `a`, `b` or the surrounding grammar. (`pNotGroup`, the model's "`b` did not yield a
  group" artefact, is numerically the "undefined reference" site: the Rust types rule it out, the harness never generates it.)
-/
import ChumskyModel.Proofs.Lemmas.ExtAll
import ChumskyModel.Proofs.Lemmas.PrattTotal
namespace Chumsky

theorem specPanic_notGroup : SpecPanic pNotGroup := Or.inr (Or.inr (Or.inr rfl))

theorem innerThenEndS_ps {pa : SOut} {pend : SS → SOut} (ha : pa.PS) (he : ∀ s, (pend s).PS) :
    (innerThenEndS pa pend).PS := by
  unfold innerThenEndS
  exact ha.andThen fun va si1 e2 => (he si1).andThen fun _ si2 e3 => trivial

/-- `NestedIn::go` over any reading whose panics are panic sites of the reference semantics — in EVERY environment (the
    nested parse runs in another one) -/
theorem nestedStepS_ps {P : SRunner} (hP : ∀ env, PPS P env) (h : HEnv) (env : Env) (s : SS) (ctx : Val) :
    (nestedStepS P h env s ctx).PS := by
  unfold nestedStepS
  refine (hP env h.b s ctx).andThen fun vb s1 e1 => ?_
  cases hk : h.kidsOf vb with
  | none => exact specPanic_notGroup
  | some kids =>
    dsimp only
    have hi := innerThenEndS_ps (pa := P (h.innerEnv env kids) h.a ⟨0, s1.insp⟩ ctx)
      (pend := fun si1 => P (h.innerEnv env kids) .end_ si1 ctx) (hP _ h.a _ ctx) (fun si1 => hP _ .end_ si1 ctx)
    generalize innerThenEndS (P (h.innerEnv env kids) h.a ⟨0, s1.insp⟩ ctx)
      (fun si1 => P (h.innerEnv env kids) .end_ si1 ctx) = o at hi ⊢
    cases o with
    | ok _ _ _ => trivial
    | fail => trivial
    | panic w => exact hi
    | oof => trivial

theorem pegE_ps_all (e : EEnv) (n : Nat) :
    ∀ env, PPS (pegE e n) env ∧ NPS (pegNextE e n) env ∧ KPS (pegMkE e n) env := by
  induction n with
  | zero =>
    intro env
    refine ⟨?_, ?_, ?_⟩
    · intro g s ctx; simp [pegE]
    · intro it s ctx ist; simp [pegNextE]
    · intro it s ctx; simp [pegMkE]
  | succ n ih =>
    intro env
    obtain ⟨hP, hN, hK⟩ := ih env
    refine ⟨?_, ?_, ?_⟩
    · intro g s ctx
      simp only [pegE]
      cases hf : e.find g with
      | none => exact pegStep_ps hP hN hK n g s ctx
      | some x =>
        cases x with
        | pratt atom ops => exact sPratt_ps (fun g s => hP g s ctx) atom ops n 0 s
        | nested a b => exact nestedStepS_ps (fun env => (ih env).1) (e.henv a b) env s ctx
    · simp only [pegNextE]; exact pegNext_ps hP hN hK
    · simp only [pegMkE]; exact pegMk_ps hP hK

/-- **C20 for grammars with several extensions** (Pratt expressions and nested parses containing each other) -/
theorem runE_panic_sites (e : EEnv) (n : Nat) (env : Env) (m : Mode) (g : G) (st : St) (hm : env.memoOn = false)
    {w : Nat} (hp : runE e n env m g st = .panic w) : SpecPanic w := by
  have hr := runE_refines e n env m g st hm
  rw [hp] at hr
  have hps := (pegE_ps_all e n env).1 g st.ss st.ctx
  rwa [hr.panic_eq] at hps

/-! ### the one-extension machines, by `ExtBridge` -/

theorem runX_panic_sites (x : XEnv) (n : Nat) (env : Env) (m : Mode) (g : G) (st : St) (hm : env.memoOn = false)
    {w : Nat} (h : runX x n env m g st = .panic w) : SpecPanic w :=
  runE_panic_sites x.toE n env m g st hm ((runX_eq_runE x n).1 ▸ h)

theorem runX_fail_alt (x : XEnv) (n : Nat) (env : Env) (m : Mode) (g : G) (st st' : St) (hm : env.memoOn = false)
    (h : runX x n env m g st = .fail st') : st'.alt.isSome = true :=
  runE_fail_alt x.toE n env m g st st' hm ((runX_eq_runE x n).1 ▸ h)

/-- **C20 for `a.nested_in(b)` anywhere**: a panic is one of the reference semantics' panic sites -/
theorem runH_panic_sites (h : HEnv) (n : Nat) (env : Env) (m : Mode) (g : G) (st : St) (hm : env.memoOn = false)
    {w : Nat} (hp : runH h n env m g st = .panic w) : SpecPanic w :=
  runE_panic_sites h.toE n env m g st hm ((runH_eq_runE h n).1 ▸ hp)

end Chumsky
