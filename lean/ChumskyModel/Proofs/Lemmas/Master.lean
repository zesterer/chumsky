/-
  I1 — the master refinement: for every grammar (memoization off), every environment, mode, state and fuel,
  the machine refines the PEG reading.
-/
import ChumskyModel.Proofs.Lemmas.ErrRefine
import ChumskyModel.Proofs.Lemmas.IterRefine
namespace Chumsky

variable {R : Runner} {P : SRunner} {N : NextRunner} {K : MkRunner} {SN : SNextRunner} {SK : SMkRunner}

/-- One step of the machine refines one step of the reading, given that the runners do. Where both sides are sequences
    (`andThen`) the case is a chain of `bind`s; where they match on a sub-run, `Refines.cases` on the induction
    hypothesis leaves the `ok` and the `fail` case. -/
theorem step_refines (hR : RunnerRefines R P) (hN : NextRefines N SN) (hK : MkRefines K SK) (L : Nat) :
    RunnerRefines (step R N K L) (pegStep P SN SK L) := by
  intro env m g st hm
  cases g
  case end_ =>
    rw [step_end, pegStep_end]
    cases h : env.toks[st.pos]? with
    | none =>
      simp only [next_none h, ss_pos, h]
      exact ⟨(bind_unit m).symm, rfl, Emitted.refl _, rfl⟩
    | some t =>
      simp only [next_some h, ss_pos, h]
      exact fail_after_rewind st (st1 := { st with pos := st.pos + 1, insp := st.insp ++ [t] })
        (List.prefix_refl _) rfl ..
  case empty => exact ⟨(bind_unit m).symm, rfl, Emitted.refl _, rfl⟩
  case any | oneOf | noneOf | select => exact tokenPrim_refines ..
  case just | configureJust => exact justRun_refines env m _ _ st rfl rfl
  case custom f => exact customFn_refines ..
  case todo => exact rfl
  case then_ a b =>
    refine (hR env m a st hm).bind0 fun va st1 va' e1 h1 => ?_
    refine hR.bind hm h1 m b fun vb st2 vb' e2 h2 => ?_
    exact h2.mono (bind_pair h1.val h2.val)
  case ignoreThen a b =>
    refine (hR env .check a st hm).bind0 fun _ st1 _ e1 h1 => ?_
    exact hR.bind hm h1 m b fun _ _ _ _ h2 => h2
  case thenIgnore a b =>
    refine (hR env m a st hm).bind0 fun va st1 va' e1 h1 => ?_
    exact hR.bind hm h1 .check b fun _ _ _ _ h2 => h2.mono h1.val
  case delimitedBy a l r =>
    refine (hR env .check l st hm).bind0 fun _ st1 _ e1 h1 => ?_
    refine hR.bind hm h1 m a fun va st2 va' e2 h2 => ?_
    exact hR.bind hm h2 .check r fun _ _ _ _ h3 => h3.mono h2.val
  case paddedBy a p =>
    refine (hR env .check p st hm).bind0 fun _ st1 _ e1 h1 => ?_
    refine hR.bind hm h1 m a fun va st2 va' e2 h2 => ?_
    exact hR.bind hm h2 .check p fun _ _ _ _ h3 => h3.mono h2.val
  case group gs | groupArr gs => exact groupLoop_refines hR hm m gs st [] [] [] (.refl _) rfl .nil
  case or_ a b => exact choiceTuple_refines hR env hm m st [a, b] st (.refl st) nofun
  case choice fl gs =>
    cases fl with
    | tuple =>
      match gs with
      | [] => exact rfl
      | [g] =>
        rw [pegStep_choice_tuple_cons, sChoice, sChoice]
        show Refines _ _ _ (R env m g st) _
        exact (hR env m g st hm).cases (fun _ _ _ _ h => h) (fun _ hf => hf) (fun _ => rfl) trivial
      | g1 :: g2 :: gs => exact choiceTuple_refines hR env hm m st (g1 :: g2 :: gs) st (.refl st) nofun
    | slice =>
      match gs with
      | [] => exact .addAlt (List.prefix_refl _) rfl ..
      | g :: gs => exact choiceSlice_refines hR env hm m st (g :: gs) st (List.prefix_refl _) rfl nofun
  case orNot a =>
    rw [step_orNot, pegStep_orNot]
    exact (hR env m a st hm).cases (fun _ _ _ _ h => h.mono (bind_map h.val .some))
      (fun _ hf => hf.rewind_ok (.refl _) rfl) (fun _ => rfl) trivial
  case not_ a =>
    simp only [step_not, pegStep_not]
    refine (hR.withAlt hm .check a st none).cases (fun _ st1 _ _ h => ?_) (fun st1 hf => ?_) (fun _ => rfl) trivial
    · exact .addAlt (by rw [next_errs]; exact (rewind_errs_of_prefix h.emitted.prefix).symm ▸ List.prefix_refl _)
        (by rw [next_ctx]; exact h.ctx) ..
    · exact ⟨(bind_unit m).symm, rfl, hf.rewind_emitted (.refl _), hf.ctx⟩
  case andIs a b =>
    rw [step_andIs, pegStep_andIs]
    refine (hR env m a st hm).cases (fun v st1 v' e1 h1 => ?_) (fun st1 hf => ?_) (fun _ => rfl) trivial
    · dsimp only [SOut.andThen]
      exact (hR.sub hm .check b (st1.rewindInput st.save) h1.ctx).cases
        (fun _ _ _ _ h2 => ⟨h1.val, rfl, h1.emitted.trans h2.emitted, h2.ctx⟩)
        (fun _ hf => hf.mono h1.emitted.prefix) (fun _ => rfl) trivial
    · exact hf.rewind
  case rewind a =>
    rw [step_rewind, pegStep_rewind]
    exact (hR env m a st hm).cases (fun _ _ _ _ h => ⟨h.val, rfl, h.errs, h.ctx⟩) (fun _ hf => hf) (fun _ => rfl) trivial
  case filter p a =>
    refine (hR env .emit a st hm).bind0 fun v st1 v' e1 h1 => ?_
    obtain rfl : v = v' := h1.val
    exact .ite (fun _ => h1.mono rfl) fun _ => failRel_iff.2 (fail_after_rewind st h1.emitted.prefix h1.ctx ..)
  case tryMap f a =>
    rw [step_tryMap, pegStep_tryMap]
    refine (hR.withAlt hm .emit a st none).cases (fun v st1 v' e1 h1 => ?_) (fun st1 hf => ?_) (fun _ => rfl) trivial
    · obtain rfl : v = v' := h1.val
      exact .ite (fun _ => failRel_iff.2 (.addAltErr (st := { st1 with alt := st.alt, log := st.log })
          h1.emitted.prefix h1.ctx ..)) fun _ => okRel_iff.2 ((h1.mono rfl).sameAs (.readdAlt (.withAlt st1 st.alt) ..))
    · exact hf.sameAs (.readdAlt (.withAlt st1 st.alt) ..) (by rw [readdAlt_alt_isSome, hf.alt, Bool.or_true])
  case map f a => exact (hR env m a st hm).bind0 fun _ _ _ _ h => h.mono (bind_map h.val f.eval)
  case to _ a | toSlice a => exact (hR env .check a st hm).bind0 fun _ _ _ _ h => h.mono rfl
  case ignored a => exact (hR env .check a st hm).bind0 fun _ _ _ _ h => h.mono (bind_unit m).symm
  case toSpan a => exact (hR env m a st hm).bind0 fun _ _ _ _ h => h.mono rfl
  case mapWithSpan a | mapWithState a =>
    exact (hR env m a st hm).bind0 fun _ _ _ _ h => h.mono (bind_congr h.val (.pair · _))
  case mapWithCtx a =>
    exact (hR env m a st hm).bind0 fun _ _ _ _ h => h.mono (h.ctx ▸ bind_congr h.val (.pair · _))
  case validate f a =>
    refine (hR env .emit a st hm).bind0 fun v st1 v' e1 h1 => ?_
    obtain rfl : v = v' := h1.val
    by_cases hp : f.emitIf.eval v = true <;> simp only [hp, ↓reduceIte]
    · exact ⟨rfl, rfl, h1.emitted.trans ⟨_, rfl, emsRel_replicate ..⟩, h1.ctx⟩
    · exact h1.mono rfl
  case tryMapWith f a =>
    refine (hR env .emit a st hm).bind0 fun v st1 v' e1 h1 => ?_
    obtain rfl : v = v' := h1.val
    exact .ite (fun _ => failRel_iff.2 (.addAltErr h1.emitted.prefix h1.ctx ..)) fun _ => h1.mono rfl
  case boxed a => exact hR env m a st hm
  case call k =>
    rw [step_call, pegStep_call]
    cases env.defs[k]? with
    | none => exact rfl
    | some d => exact hR env m d st hm
  case memoized id a =>
    rw [step_memoized, hm]
    exact hR env m a st hm
  case withCtx _ a | mapCtx _ a => exact (hR env m a { st with ctx := _ } hm).restoreCtx
  case ignoreWithCtx a b =>
    refine (hR env .emit a st hm).bind0 fun va st1 va' e1 h1 => ?_
    obtain rfl : va = va' := h1.val
    exact (hR.atCtx hm m b st1 va st.ctx).cases
      (fun _ _ _ _ h2 => ⟨h2.val, rfl, h1.emitted.trans h2.emitted, h2.ctx⟩)
      (fun _ hf => hf.mono h1.emitted.prefix) (fun _ => rfl) trivial
  case thenWithCtx a b =>
    refine (hR env .emit a st hm).bind0 fun va st1 va' e1 h1 => ?_
    obtain rfl : va = va' := h1.val
    exact Refines.bind h1.emitted (hR.atCtx hm m b st1 va st.ctx) fun _ _ _ _ h2 =>
      h2.mono (bind_congr h2.val (.pair va ·))
  case withState a =>
    rw [step_withState, pegStep_withState]
    exact (hR env m a { st with insp := [] } hm).cases (fun _ _ _ _ h => ⟨h.val, rfl, h.errs, h.ctx⟩)
      (fun _ hf => ⟨hf.errs, hf.ctx, hf.alt⟩) (fun _ => rfl) trivial
  case collect k it =>
    rw [step_collect, pegStep_collect]
    exact (hK env m it st hm).cases
      (fun _ _ _ h => collectLoop_refines hN hm m it k L _ _ [] [] 0 _ h.emitted h.ctx .nil)
      (fun _ hf => hf) (fun _ => rfl) trivial
  case collectExactly n it =>
    rw [step_collectExactly, pegStep_collectExactly]
    exact (hK env m it st hm).cases
      (fun _ _ _ h => collectExactlyLoop_refines hN hm m it n _ _ [] [] _ h.emitted h.ctx .nil)
      (fun _ hf => hf) (fun _ => rfl) trivial
  case foldl _ a it | foldlWith a it =>
    refine (hR env m a st hm).bind0 fun va st1 va' e1 h1 => ?_
    exact (hK.sub hm m it st1 h1.ctx).cases
      (fun _ _ _ h2 => foldlLoop_refines hN hm m it _ _ (fun _ _ _ => by rfl) L _ _ _ _ _
        (h1.emitted.trans h2.emitted) h2.ctx h1.val)
      (fun _ hf => hf.mono h1.emitted.prefix) (fun _ => rfl) trivial
  case foldr _ it b | foldrWith it b =>
    simp only [step_foldr, step_foldrWith, pegStep_foldr, pegStep_foldrWith]
    refine (hK env m it st hm).cases (fun ist st1 e1 h1 => ?_) (fun _ hf => hf) (fun _ => rfl) trivial
    dsimp only
    refine (foldrCollect_refines hN hm m it L st1 ist [] [] e1 h1.emitted h1.ctx fun _ => rfl).cases
      (fun items items' st2 e2 hi he2 hc2 => ?_) fun _ _ h => h
    exact Refines.bind he2 (hR.sub hm m b st2 hc2) fun vb _ vb' _ h3 =>
      h3.mono (bind_match fun he => by subst he; rw [hi rfl, (h3.val : vb = vb')]; rfl)
  case iterP it =>
    have loop : ∀ ap, Refines m st.errs st.ctx
        (match K env .check it st with
          | .ok ist st1 => iterLoop N env it ap L st1 ist
          | .fail st1 => .fail st1
          | .panic w => .panic w
          | .oof => .oof)
        (match SK env it st.ss st.ctx with
          | .ok ist s1 em => sIterLoop SN env st.ctx it ap L s1 ist em
          | .fail => .fail
          | .panic w => .panic w
          | .oof => .oof) := fun ap =>
      (hK env .check it st hm).cases (fun _ _ _ h => iterLoop_refines hN hm m it ap L _ _ _ h.emitted h.ctx)
        (fun _ hf => hf) (fun _ => rfl) trivial
    cases it with
    | repeated a lo hi =>
      cases lo with
      | zero =>
        cases hi with
        | none => exact repeatFast_refines hR hm m a L st [] (.refl _) rfl
        | some h => exact loop true
      | succ lo => exact loop true
    | separatedBy a sep lo hi lead trail => exact loop true
    | configureRep c inner => exact loop false
    | tryConfigureRep c inner => exact loop false
    | intoIter a => exact (hR env .check a st hm).bind0 fun _ _ _ _ h => h.mono (bind_unit m).symm
    | _ => exact rfl
  case recoverVia a r =>
    rw [step_recoverVia, pegStep_recoverVia]
    refine (hR env m a st hm).cases (fun _ _ _ _ h => h) (fun st1 hf => ?_) (fun _ => rfl) trivial
    obtain ⟨alt, halt⟩ := Option.isSome_iff_exists.mp hf.alt
    simp only [rewind_alt, halt]
    exact (hR.same hm m r (st := { st1.rewind st.save with alt := none }) (st0 := st)
        ⟨rfl, rfl, rewind_errs_of_prefix hf.errs, hf.ctx⟩).cases
      (fun _ _ _ _ h3 => .of_emit h3.emitted h3.ctx alt.err h3.val)
      (fun st3 hf3 => ⟨(rewind_errs_of_prefix (st' := { st3 with alt := some alt }) hf3.errs).symm ▸
        List.prefix_refl _, hf3.ctx, rfl⟩)
      (fun _ => rfl) trivial
  case recoverSkipUntil a skip until_ fb =>
    rw [step_recoverSkipUntil, pegStep_recoverSkipUntil]
    refine (hR env m a st hm).cases (fun _ _ _ _ h => h) (fun st1 hf => ?_) (fun _ => rfl) trivial
    obtain ⟨alt, halt⟩ := Option.isSome_iff_exists.mp hf.alt
    simp only [rewind_alt, halt]
    exact (skipUntilLoop_refines hR hm m skip until_ fb alt L { st1.rewind st.save with alt := none } []
        (hf.rewind_emitted (.refl _)) hf.ctx).cases (fun _ _ _ _ h => h)
      (fun _ hf3 => hf3.rewind)
      (fun _ => rfl) trivial
  case recoverSkipRetry a skip until_ =>
    rw [step_recoverSkipRetry, pegStep_recoverSkipRetry]
    refine (hR env m a st hm).cases (fun _ _ _ _ h => h) (fun st1 hf => ?_) (fun _ => rfl) trivial
    obtain ⟨alt, halt⟩ := Option.isSome_iff_exists.mp hf.alt
    simp only [rewind_alt, halt]
    exact (skipRetryLoop_refines hR hm m a skip until_ alt L { st1.rewind st.save with alt := none } []
        (hf.rewind_emitted (.refl _)) hf.ctx).cases (fun _ _ _ _ h => h)
      (fun _ hf3 => hf3.rewind)
      (fun _ => rfl) trivial
  case labelled l asCtx a =>
    rw [step_labelled, pegStep_labelled]
    refine (hR.withAlt hm m a st none).cases (fun _ st1 _ _ h1 => ?_) (fun st1 hf => ?_) (fun _ => rfl) trivial
    · refine OkRel.inCtx (h1.sameAs ?_) asCtx env l st.pos
      split
      · exact .withAlt st1 st.alt
      · exact .readdAlt (.withAlt st1 st.alt) ..
    · obtain ⟨n, hn⟩ := Option.isSome_iff_exists.mp hf.alt
      refine FailRel.inCtx (hf.sameAs ?_ ?_) asCtx env l st.pos <;> simp only [hn]
      · exact .readdAlt (.withAlt st1 st.alt) ..
      · rw [readdAlt_alt_isSome]; exact Bool.or_true _
  case mapErr k a =>
    rw [step_mapErr, pegStep_mapErr]
    refine (hR.withAlt hm m a st none).cases (fun _ st1 _ _ h1 => ?_) (fun st1 hf => ?_) (fun _ => rfl) trivial
    · exact h1.sameAs (.readdAlt (.withAlt st1 st.alt) ..)
    · obtain ⟨n, hn⟩ := Option.isSome_iff_exists.mp hf.alt
      simp only [hn]
      exact hf.sameAs (.readdAlt (.withAlt st1 st.alt) ..) (by rw [readdAlt_alt_isSome]; exact Bool.or_true _)

/-- **I1.** machine ⊑ PEG reading, for all three runners, at every fuel. -/
theorem run_refines_all (n : Nat) :
    RunnerRefines (run n) (peg n) ∧ NextRefines (next n) (pegNext' n) ∧ MkRefines (mkIter n) (pegMk' n) := by
  induction n with
  | zero => exact ⟨fun _ _ _ _ _ => trivial, fun _ _ _ _ _ _ => trivial, fun _ _ _ _ _ => trivial⟩
  | succ n ih =>
    obtain ⟨hR, hN, hK⟩ := ih
    exact ⟨step_refines hR hN hK n, stepNext_refines hR hN hK, stepMk_refines hR hK⟩

theorem run_refines (n : Nat) (env : Env) (m : Mode) (g : G) (st : St) (hm : env.memoOn = false) :
    Refines m st.errs st.ctx (run n env m g st) (peg n env g st.ss st.ctx) :=
  (run_refines_all n).1 env m g st hm

#print axioms step_refines

end Chumsky
