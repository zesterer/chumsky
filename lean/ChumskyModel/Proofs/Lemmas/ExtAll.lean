/-
  The unified extension machine (`Model/Ext.lean`): any number of Pratt tables and nested-input parsers, referring to each
  other and to the main grammar freely. Each simulation is one induction on the fuel with three cases at a grammar node —
  a Pratt reference (the parametric Pratt lemma), a nested reference (the parametric `NestedIn::go` lemma), anything else
  (the step lemma of the simulation).
-/
import ChumskyModel.Proofs.Lemmas.ExtBridge
import ChumskyModel.Proofs.Lemmas.PrattRefine
import ChumskyModel.Proofs.Lemmas.PrattMode
import ChumskyModel.Proofs.Lemmas.PrattAlt
import ChumskyModel.Proofs.Lemmas.NestedHole
import ChumskyModel.Proofs.Lemmas.NestedMode
import ChumskyModel.Proofs.Lemmas.NestedAlt
namespace Chumsky

/-! ### I1: machine ⊑ reading -/

theorem runE_refines_all (e : EEnv) (n : Nat) :
    RunnerRefines (runE e n) (pegE e n) ∧ NextRefines (nextE e n) (pegNextE e n) ∧
      MkRefines (mkIterE e n) (pegMkE e n) := by
  induction n with
  | zero =>
    refine ⟨?_, ?_, ?_⟩
    · intro env m g st _; simp [runE, pegE, Refines]
    · intro env m it st ist _; simp [nextE, pegNextE, RefinesIt]
    · intro env m it st _; simp [mkIterE, pegMkE, RefinesMk]
  | succ n ih =>
    obtain ⟨hR, hN, hK⟩ := ih
    refine ⟨?_, ?_, ?_⟩
    · intro env m g st hm
      simp only [runE, pegE]
      cases hf : e.find g with
      | none => exact step_refines hR hN hK n env m g st hm
      | some x =>
        cases x with
        | pratt atom ops =>
          have hP : PRefines (fun m g st => runE e n env m g st) (fun g s => pegE e n env g s st.ctx) st.ctx := by
            intro m' g' st' hc
            have := hR env m' g' st' hm
            rw [hc] at this
            exact this
          exact prattGo_refines hP env m atom ops n 0 st rfl
        | nested a b => exact nestedStep_refines hR (e.henv a b) env m st hm
    · simp only [nextE, pegNextE]; exact stepNext_refines hR hN hK
    · simp only [mkIterE, pegMkE]; exact stepMk_refines hR hK

theorem runE_refines (e : EEnv) (n : Nat) (env : Env) (m : Mode) (g : G) (st : St) (hm : env.memoOn = false) :
    Refines m st.errs st.ctx (runE e n env m g st) (pegE e n env g st.ss st.ctx) :=
  (runE_refines_all e n).1 env m g st hm

theorem parseTopE_refines (e : EEnv) (n : Nat) (env : Env) (m : Mode) (g : G) (hm : env.memoOn = false) :
    TopRefines m (parseTopE e n env m g) (pegTopE e n env g) :=
  parseTopE_eq_top e n env m g ▸ (runE_refines e n env m (.thenIgnore g .end_) St.init hm).top

/-- a failing run leaves a pending error (C20) -/
theorem runE_fail_alt (e : EEnv) (n : Nat) (env : Env) (m : Mode) (g : G) (st st' : St) (hm : env.memoOn = false)
    (hf : runE e n env m g st = .fail st') : st'.alt.isSome = true :=
  (hf ▸ runE_refines e n env m g st hm).fail_alt

/-! ### I2: check = erase ∘ emit -/

theorem runE_modeSim (e : EEnv) (n : Nat) : ModeSimR (runE e n) ∧ ModeSimN (nextE e n) ∧ ModeSimK (mkIterE e n) := by
  induction n with
  | zero => exact ⟨fun _ _ _ => rfl, fun _ _ _ _ => rfl, fun _ _ _ => rfl⟩
  | succ n ih =>
    obtain ⟨hR, hN, hK⟩ := ih
    refine ⟨?_, ?_, ?_⟩
    · intro env g st
      simp only [runE]
      cases hf : e.find g with
      | none => exact step_modeSim hR hN hK n env g st
      | some x =>
        cases x with
        | pratt atom ops => exact prattGo_modeSim (fun g st => hR env g st) env atom ops n 0 st
        | nested a b => exact nestedStep_modeSim hR (e.henv a b) env st
    · simp only [nextE]; exact stepNext_modeSim hR hN hK
    · simp only [mkIterE]; exact stepMk_modeSim hR hK

/-! ### I3: the pending error ≈ summary of the failure log -/

def Ext.c06 : Ext → Bool
  | .pratt atom ops => atom.c06 && opsC06 ops
  | .nested a b => a.c06 && b.c06

theorem runE_AR_all (e : EEnv) (ek : ErrKind) (hek : ek ≠ .empty) (defs : List G) (hdefs : ∀ d ∈ defs, d.c06 = true)
    (hx : ∀ x ∈ e.exts, x.c06 = true) (n : Nat) :
    ∀ env, env.ek = ek → env.defs = defs → ARR env (runE e n) ∧ ARN env (nextE e n) ∧ ARK env (mkIterE e n) := by
  induction n with
  | zero => intro env _ _; exact ⟨fun _ _ _ _ => trivial, fun _ _ _ _ _ => trivial, fun _ _ _ _ => trivial⟩
  | succ n ih =>
    intro env he hd
    have hek' : env.ek ≠ .empty := by rw [he]; exact hek
    have hdefs' : ∀ d ∈ env.defs, d.c06 = true := by rw [hd]; exact hdefs
    obtain ⟨hR, hN, hK⟩ := ih env he hd
    refine ⟨?_, ?_, ?_⟩
    · intro m g st hg
      simp only [runE]
      cases hf : e.find g with
      | none => exact step_AR hek' hdefs' hR hN hK n m g st hg
      | some x =>
        have hxc := hx x (EEnv.find_mem hf)
        cases x with
        | pratt atom ops =>
          simp only [Ext.c06, Bool.and_eq_true] at hxc
          exact prattGo_AR (fun m g st hg => hR m g st hg) env m atom hxc.1 ops hxc.2 n 0 st
        | nested a b =>
          simp only [Ext.c06, Bool.and_eq_true] at hxc
          exact nestedStep_AR (e.henv a b) env hek' (fun env' he' hd' => (ih env' (he'.trans he) (hd'.trans hd)).1)
            hxc.1 hxc.2 m st
    · simp only [nextE]; exact stepNext_AR hR hN hK
    · simp only [mkIterE]; exact stepMk_AR hek' hR hK

/-- **C06 across all extensions**: the last error of a failed parse is (≈) the summary of all failure events of the outer
    parse, at the furthest of them -/
theorem parseTopE_primary_error (e : EEnv) (n : Nat) (env : Env) (hek : env.ek ≠ .empty)
    (hdefs : ∀ d ∈ env.defs, d.c06 = true) (hx : ∀ x ∈ e.exts, x.c06 = true) (m : Mode) (g : G) (hg : g.c06 = true)
    (r : ParseResult) (f : St) (hp : parseTopE e n env m g = .result r f) (ho : r.output = none) :
    ∃ l l', f.alt = some l ∧ summ env.ek f.log = some l' ∧ l.equiv l' ∧ r.errs = f.errs.map (·.err) ++ [l.err] ∧
      (∀ ev ∈ f.log, ev.pos ≤ l.pos) := by
  have hAR := (runE_AR_all e env.ek hek env.defs hdefs hx n env rfl rfl).1 m (.thenIgnore g .end_) St.init
    (by show (g.c06 && true) = true; rw [hg]; rfl)
  rcases Out.top_result (parseTopE_eq_top e n env m g ▸ hp) with ⟨v, _, rfl⟩ | ⟨hrun, rfl⟩
  · cases ho
  · rw [hrun] at hAR
    obtain ⟨l, l', hl, hs, he⟩ := AltRelF.init hAR
    refine ⟨l, l', hl, hs, he, by rw [hl], ?_⟩
    intro ev hev
    rw [he.1]
    exact (foldAlt_pos_ge hs).1 ev hev

/-! ### the one-extension machines

  `runX` (one Pratt table) and `runH` (one nested parser) are `runE` for a one-element extension list (`ExtBridge`), so what
  is proved above holds of them by rewriting. -/

theorem runX_refines (x : XEnv) (n : Nat) (env : Env) (m : Mode) (g : G) (st : St) (hm : env.memoOn = false) :
    Refines m st.errs st.ctx (runX x n env m g st) (pegX x n env g st.ss st.ctx) := by
  rw [(runX_eq_runE x n).1, (pegX_eq_pegE x n).1]; exact runE_refines x.toE n env m g st hm

theorem parseTopX_refines (x : XEnv) (n : Nat) (env : Env) (m : Mode) (hm : env.memoOn = false) :
    TopRefines m (parseTopX x n env m) (pegTopX x n env) := by
  rw [parseTopX_eq, pegTopX_eq]; exact parseTopE_refines x.toE n env m _ hm

theorem runX_modeSim (x : XEnv) (n : Nat) : ModeSimR (runX x n) ∧ ModeSimN (nextX x n) ∧ ModeSimK (mkIterX x n) := by
  obtain ⟨h1, h2, h3⟩ := runX_eq_runE x n
  rw [h1, h2, h3]; exact runE_modeSim x.toE n

/-- **C06 for recursive expression grammars**: the last error of a failed parse is the summary of ALL failure events,
    hence at the furthest failure position, however deep in parentheses the failures happened -/
theorem parseTopX_primary_error (x : XEnv) (n : Nat) (env : Env) (hek : env.ek ≠ .empty)
    (hdefs : ∀ d ∈ env.defs, d.c06 = true) (hatom : x.atom.c06 = true) (hops : opsC06 x.ops = true) (m : Mode)
    (r : ParseResult) (f : St) (h : parseTopX x n env m = .result r f) (ho : r.output = none) :
    ∃ l l', f.alt = some l ∧ summ env.ek f.log = some l' ∧ l.equiv l' ∧ r.errs = f.errs.map (·.err) ++ [l.err] ∧
      (∀ ev ∈ f.log, ev.pos ≤ l.pos) := by
  rw [parseTopX_eq] at h
  refine parseTopE_primary_error x.toE n env hek hdefs ?_ m _ rfl r f h ho
  intro e he
  cases List.mem_singleton.1 he
  simp [Ext.c06, hatom, hops]

theorem runH_refines (h : HEnv) (n : Nat) (env : Env) (m : Mode) (g : G) (st : St) (hm : env.memoOn = false) :
    Refines m st.errs st.ctx (runH h n env m g st) (pegH h n env g st.ss st.ctx) := by
  rw [(runH_eq_runE h n).1, (pegH_eq_pegE h n).1]; exact runE_refines h.toE n env m g st hm

theorem parseTopH_refines (h : HEnv) (n : Nat) (env : Env) (m : Mode) (g : G) (hm : env.memoOn = false) :
    TopRefines m (parseTopH h n env m g) (pegTopH h n env g) := by
  rw [parseTopH_eq, pegTopH_eq]; exact parseTopE_refines h.toE n env m g hm

theorem runH_modeSim (h : HEnv) (n : Nat) : ModeSimR (runH h n) ∧ ModeSimN (nextH h n) ∧ ModeSimK (mkIterH h n) := by
  obtain ⟨h1, h2, h3⟩ := runH_eq_runE h n
  rw [h1, h2, h3]; exact runE_modeSim h.toE n

/-- a failing run — the nested parse itself, or anything around it — leaves a pending error -/
theorem runH_fail_alt (h : HEnv) (n : Nat) (env : Env) (m : Mode) (g : G) (st st' : St) (hm : env.memoOn = false)
    (hf : runH h n env m g st = .fail st') : st'.alt.isSome = true :=
  runE_fail_alt h.toE n env m g st st' hm ((runH_eq_runE h n).1 ▸ hf)

/-- **C06 with nested inputs**: when a parse of a grammar containing `a.nested_in(b)` (anywhere, any depth) fails, the last
    reported error is the pending error of the final state and (≈) the summary of all failure events of the OUTER parse —
    each nested parse that left an error contributing one event at the position just after its group token — hence at the
    furthest of them -/
theorem parseTopH_primary_error (h : HEnv) (n : Nat) (env : Env) (hek : env.ek ≠ .empty)
    (hdefs : ∀ d ∈ env.defs, d.c06 = true) (ha : h.a.c06 = true) (hb : h.b.c06 = true) (m : Mode) (g : G)
    (hg : g.c06 = true) (r : ParseResult) (f : St) (hp : parseTopH h n env m g = .result r f) (ho : r.output = none) :
    ∃ l l', f.alt = some l ∧ summ env.ek f.log = some l' ∧ l.equiv l' ∧ r.errs = f.errs.map (·.err) ++ [l.err] ∧
      (∀ ev ∈ f.log, ev.pos ≤ l.pos) := by
  rw [parseTopH_eq] at hp
  refine parseTopE_primary_error h.toE n env hek hdefs ?_ m g hg r f hp ho
  intro e he
  cases List.mem_singleton.1 he
  simp [Ext.c06, ha, hb]

end Chumsky
