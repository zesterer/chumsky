/-
  Proofs/Lemmas/NestedDelims.lean — what `nested_delimiters` consumes is exactly one balanced delimited region.

  `BalAt env skip pairs p q`: the tokens in `[p, q)` are a sequence of plain tokens (none of them a delimiter) and of
  delimited blocks `o … c` with `(o, c)` one of the pairs and a balanced inside.
-/
import ChumskyModel.Model.Delims
import ChumskyModel.Proofs.Lemmas.RepSpec
namespace Chumsky

inductive BalAt (env : Env) (skip : List Nat) (pairs : List (Nat × Nat)) : Nat → Nat → Prop
  | nil (p : Nat) : BalAt env skip pairs p p
  | tok {p q t : Nat} : env.toks[p]? = some t → skip.contains t = false → BalAt env skip pairs (p + 1) q →
      BalAt env skip pairs p q
  | block {p q r o c : Nat} : (o, c) ∈ pairs → env.toks[p]? = some o → BalAt env skip pairs (p + 1) q →
      env.toks[q]? = some c → BalAt env skip pairs (q + 1) r → BalAt env skip pairs p r

theorem BalAt.le {env skip pairs p q} (h : BalAt env skip pairs p q) : p ≤ q := by
  induction h with
  | nil => exact Nat.le_refl _
  | tok _ _ _ ih => omega
  | block _ _ _ _ _ ih1 ih2 => omega

theorem BalAt.trans {env skip pairs p q r} (h1 : BalAt env skip pairs p q) (h2 : BalAt env skip pairs q r) :
    BalAt env skip pairs p r := by
  induction h1 with
  | nil => exact h2
  | tok ht hs _ ih => exact .tok ht hs (ih h2)
  | block hp ho hin hc _ _ ih2 => exact .block hp ho hin hc (ih2 h2)

/-- one delimited region `o inside c` -/
def Region (env : Env) (skip : List Nat) (pairs : List (Nat × Nat)) (o c : Nat) (p r : Nat) : Prop :=
  ∃ q, env.toks[p]? = some o ∧ BalAt env skip pairs (p + 1) q ∧ env.toks[q]? = some c ∧ r = q + 1

/-- a balanced token sequence: plain tokens (no delimiter among them) and delimited blocks with a balanced inside -/
inductive Balanced (skip : List Nat) (pairs : List (Nat × Nat)) : List Nat → Prop
  | nil : Balanced skip pairs []
  | tok {t : Nat} {rest : List Nat} : skip.contains t = false → Balanced skip pairs rest → Balanced skip pairs (t :: rest)
  | block {o c : Nat} {inner rest : List Nat} : (o, c) ∈ pairs → Balanced skip pairs inner → Balanced skip pairs rest →
      Balanced skip pairs (o :: (inner ++ c :: rest))

/-- the tokens in `[p, q)` -/
def Env.seg (env : Env) (p q : Nat) : List Nat := (env.toks.drop p).take (q - p)

theorem seg_self (env : Env) (p : Nat) : env.seg p p = [] := by
  rw [Env.seg, Nat.sub_self, List.take_zero]

theorem seg_cons {env : Env} {p q t : Nat} (ht : env.toks[p]? = some t) (hpq : p < q) :
    env.seg p q = t :: env.seg (p + 1) q := by
  obtain ⟨hlt, rfl⟩ := List.getElem?_eq_some_iff.mp ht
  obtain ⟨k, rfl⟩ := Nat.exists_eq_add_of_lt hpq
  rw [Env.seg, Env.seg, List.drop_eq_getElem_cons hlt, Nat.add_assoc, Nat.add_sub_cancel_left, Nat.add_sub_add_left,
    Nat.add_sub_cancel, List.take_succ_cons]

theorem seg_append (env : Env) {p q r : Nat} (h1 : p ≤ q) (h2 : q ≤ r) : env.seg p r = env.seg p q ++ env.seg q r := by
  obtain ⟨k, rfl⟩ := Nat.exists_eq_add_of_le h1
  obtain ⟨l, rfl⟩ := Nat.exists_eq_add_of_le h2
  rw [Env.seg, Env.seg, Env.seg, Nat.add_assoc, Nat.add_sub_cancel_left, Nat.add_sub_cancel_left, Nat.add_sub_add_left,
    Nat.add_sub_cancel_left, List.take_add, List.drop_drop]

theorem BalAt.balanced {env : Env} {skip pairs p q} (h : BalAt env skip pairs p q) : Balanced skip pairs (env.seg p q) := by
  induction h with
  | nil p => rw [seg_self]; exact .nil
  | tok ht hs hrest ih => rw [seg_cons ht (Nat.lt_of_succ_le hrest.le)]; exact .tok hs ih
  | block hp ho hin hc hrest ih1 ih2 =>
    have hq := Nat.le_trans (Nat.le_succ _) hrest.le
    rw [seg_cons ho (Nat.lt_of_lt_of_le (Nat.lt_of_succ_le hin.le) hq), seg_append env hin.le hq,
      seg_cons hc (Nat.lt_of_succ_le hrest.le)]
    exact .block hp ih1 ih2

section
variable {env : Env} {ctx : Val}

theorem peg_ok_succ {n g s v s' em} (h : peg n env g s ctx = .ok v s' em) :
    ∃ m, n = m + 1 ∧ pegStep (peg m) (pegNext' m) (pegMk' m) m env g s ctx = .ok v s' em := by
  cases n with
  | zero => simp [peg] at h
  | succ m => exact ⟨m, rfl, peg_succ m ▸ h⟩

theorem SOut.andThen_ok {o : SOut} {k : Val → SS → List Emis → SOut} {v s' em} (h : o.andThen k = .ok v s' em) :
    ∃ v0 s1 e1, o = .ok v0 s1 e1 ∧ k v0 s1 e1 = .ok v s' em := by
  cases o <;> first | exact ⟨_, _, _, rfl, h⟩ | cases h

theorem sTokenPrim_ok {accept : Nat → Option Val} {s v s' em} (h : sTokenPrim env s accept = .ok v s' em) :
    ∃ t, env.toks[s.pos]? = some t ∧ accept t = some v ∧ s'.pos = s.pos + 1 := by
  unfold sTokenPrim at h
  cases ht : env.toks[s.pos]? with
  | none => rw [ht] at h; cases h
  | some t =>
    rw [ht] at h
    cases ha : accept t with
    | none => simp only [ha] at h; cases h
    | some w => simp only [ha] at h; cases h; exact ⟨t, rfl, ha, rfl⟩

theorem sJust_single {t : Nat} {s s' : SS} (h : sJust env [t] s = some s') :
    env.toks[s.pos]? = some t ∧ s'.pos = s.pos + 1 := by
  simp only [sJust] at h
  cases ht : env.toks[s.pos]? with
  | none => rw [ht] at h; cases h
  | some u =>
    simp only [ht] at h
    split at h <;> cases h
    exact ⟨congrArg some (eq_of_beq ‹_›), rfl⟩

theorem peg_just_single {n t s v s' em} (h : peg n env (.just [t]) s ctx = .ok v s' em) :
    env.toks[s.pos]? = some t ∧ s'.pos = s.pos + 1 := by
  obtain ⟨m, _, hs⟩ := peg_ok_succ h
  rw [pegStep_just] at hs
  cases hj : sJust env [t] s with
  | none => rw [hj] at hs; cases hs
  | some s1 => rw [hj] at hs; cases hs; exact sJust_single hj

/-- `block.delimited_by(just(o), just(c))` -/
theorem peg_ndDelim {n K o c s v s' em} (h : peg n env (ndDelim K (o, c)) s ctx = .ok v s' em) :
    ∃ m s1 s2 v2 e2, m < n ∧ env.toks[s.pos]? = some o ∧ s1.pos = s.pos + 1 ∧
      peg m env (.call K) s1 ctx = .ok v2 s2 e2 ∧ env.toks[s2.pos]? = some c ∧ s'.pos = s2.pos + 1 := by
  obtain ⟨m, rfl, hs⟩ := peg_ok_succ h
  rw [ndDelim, pegStep_delimitedBy] at hs
  obtain ⟨_, s1, _, h1, hs⟩ := SOut.andThen_ok hs
  obtain ⟨v2, s2, e2, h2, hs⟩ := SOut.andThen_ok hs
  obtain ⟨_, s3, _, h3, hs⟩ := SOut.andThen_ok hs
  cases hs
  obtain ⟨ho, hp1⟩ := peg_just_single h1
  obtain ⟨hc, hp3⟩ := peg_just_single h3
  exact ⟨m, s1, s2, _, _, Nat.lt_succ_self _, ho, hp1, h2, hc, hp3⟩

theorem peg_or_ok {n a b s v s' em} (h : peg n env (.or_ a b) s ctx = .ok v s' em) :
    ∃ m, m < n ∧ (peg m env a s ctx = .ok v s' em ∨ peg m env b s ctx = .ok v s' em) := by
  obtain ⟨m, rfl, hs⟩ := peg_ok_succ h
  refine ⟨m, Nat.lt_succ_self _, ?_⟩
  simp only [pegStep_or, sChoice] at hs
  cases ha : peg m env a s ctx <;> rw [ha] at hs <;> try cases hs
  · exact .inl rfl
  · cases hb : peg m env b s ctx <;> rw [hb] at hs <;> cases hs
    exact .inr rfl

/-- the `or` chain over the delimiter pairs: some pair's delimited block matched -/
theorem peg_ndManyBlock {K : Nat} (others : List (Nat × Nat)) :
    ∀ (acc : G) {n s v s' em},
      peg n env (others.foldl (fun acc p => .or_ acc (ndDelim K p)) acc) s ctx = .ok v s' em →
      ∃ m, m ≤ n ∧ (peg m env acc s ctx = .ok v s' em ∨ ∃ p ∈ others, peg m env (ndDelim K p) s ctx = .ok v s' em) := by
  induction others with
  | nil => exact fun acc n s v s' em h => ⟨n, Nat.le_refl _, .inl h⟩
  | cons p ps ih =>
    intro acc n s v s' em h
    obtain ⟨m, hm, hor | ⟨q, hq, hok⟩⟩ := ih (.or_ acc (ndDelim K p)) h
    · obtain ⟨k, hk, ha | hb⟩ := peg_or_ok hor
      · exact ⟨k, Nat.le_trans (Nat.le_of_lt hk) hm, .inl ha⟩
      · exact ⟨k, Nat.le_trans (Nat.le_of_lt hk) hm, .inr ⟨p, List.mem_cons_self, hb⟩⟩
    · exact ⟨m, hm, .inr ⟨q, List.mem_cons_of_mem _ hq, hok⟩⟩

/-- the plain-token item `any().and_is(none_of(skip)).ignored()` consumes one token that is not a delimiter -/
theorem peg_ndTok {n skip s v s' em} (h : peg n env (.ignored (.andIs .any (.noneOf skip))) s ctx = .ok v s' em) :
    ∃ t, env.toks[s.pos]? = some t ∧ skip.contains t = false ∧ s'.pos = s.pos + 1 := by
  obtain ⟨m, _, h0⟩ := peg_ok_succ h
  rw [pegStep_ignored] at h0
  obtain ⟨_, s1, _, h1, h0⟩ := SOut.andThen_ok h0
  cases h0
  obtain ⟨k, _, h1⟩ := peg_ok_succ h1
  rw [pegStep_andIs] at h1
  obtain ⟨_, s1, _, h2, h1⟩ := SOut.andThen_ok h1
  obtain ⟨_, _, _, h3, h1⟩ := SOut.andThen_ok h1
  cases h1
  obtain ⟨_, _, h2⟩ := peg_ok_succ h2
  obtain ⟨_, _, h3⟩ := peg_ok_succ h3
  rw [pegStep_any] at h2
  rw [pegStep_noneOf] at h3
  obtain ⟨t, ht, _, hp⟩ := sTokenPrim_ok h2
  obtain ⟨u, hu, hs, _⟩ := sTokenPrim_ok h3
  cases ht.symm.trans hu
  refine ⟨t, ht, ?_, hp⟩
  cases hc : skip.contains t
  · rfl
  · rw [hc] at hs; cases hs

/-- **the recursive block matches a balanced token sequence** -/
theorem peg_ndBlock_balanced {K : Nat} {first : Nat × Nat} {others : List (Nat × Nat)}
    (hdef : env.defs[K]? = some (ndBlock K first others)) :
    ∀ n {s v s' em}, peg n env (.call K) s ctx = .ok v s' em →
      BalAt env (ndSkip first others) (first :: others) s.pos s'.pos := by
  intro n
  induction n using Nat.strongRecOn with
  | _ n ih =>
    intro s v s' em h
    obtain ⟨m, rfl, hs⟩ := peg_ok_succ h
    simp only [pegStep_call, hdef] at hs
    -- `block` = the unbounded repetition used as a parser
    obtain ⟨m1, rfl, -⟩ := peg_ok_succ hs
    obtain ⟨vs, hrun, _⟩ := peg_iterP_repeated_fast (env := env) (ctx := ctx) hs
    have hchain := hrun.chain
    -- every item is a plain token or a delimited block whose inside is balanced by the induction hypothesis
    clear hrun hs h
    induction hchain with
    | nil s => exact .nil _
    | @cons s0 v0 s1 e1 vs s2 e2 hitem _ ihc =>
      refine BalAt.trans ?_ ihc
      obtain ⟨k, hk, hk'⟩ := peg_or_ok hitem
      rcases hk' with hmb | htok
      · obtain ⟨k2, hk2, hc⟩ := peg_ndManyBlock (K := K) others (ndDelim K first) hmb
        have hd : ∃ p ∈ first :: others, peg k2 env (ndDelim K p) s0 ctx = .ok v0 s1 e1 := by
          rcases hc with h1 | ⟨p, hp, h1⟩
          · exact ⟨first, List.mem_cons_self, h1⟩
          · exact ⟨p, List.mem_cons_of_mem _ hp, h1⟩
        obtain ⟨⟨o, c⟩, hp, hok⟩ := hd
        obtain ⟨j, t1, t2, v2, e2', hj, ho, hp1, hcall, hc', hp3⟩ := peg_ndDelim hok
        have hin := ih j (by omega) hcall
        rw [hp1] at hin
        rw [hp3]
        exact .block hp ho hin hc' (.nil _)
      · obtain ⟨t, ht, hs, hp⟩ := peg_ndTok htok
        rw [hp]
        exact .tok ht hs (.nil _)

/-- **`nested_delimiters` consumes exactly one balanced delimited region**: it starts with `start`, ends with `end`, and
    what lies between is balanced with respect to all the delimiter pairs; the output is the span of that region. -/
theorem peg_ndTop_region {K : Nat} {first : Nat × Nat} {others : List (Nat × Nat)}
    (hdef : env.defs[K]? = some (ndBlock K first others)) {n s v s' em}
    (h : peg n env (ndTop K first) s ctx = .ok v s' em) :
    Region env (ndSkip first others) (first :: others) first.1 first.2 s.pos s'.pos ∧
      v = .span (env.mkSpan s.pos s'.pos).1 (env.mkSpan s.pos s'.pos).2 := by
  obtain ⟨m, _, hs⟩ := peg_ok_succ h
  rw [ndTop, pegStep_map] at hs
  obtain ⟨_, _, _, h1, hs⟩ := SOut.andThen_ok hs
  cases hs
  obtain ⟨k, _, h1⟩ := peg_ok_succ h1
  rw [pegStep_mapWithSpan] at h1
  obtain ⟨_, _, _, h2, h1⟩ := SOut.andThen_ok h1
  cases h1
  obtain ⟨j, t1, t2, _, _, _, ho, hp1, hcall, hc, hp3⟩ := peg_ndDelim (o := first.1) (c := first.2) h2
  have hin := peg_ndBlock_balanced hdef j hcall
  rw [hp1] at hin
  exact ⟨⟨t2.pos, ho, hin, hc, hp3⟩, rfl⟩

end
end Chumsky
