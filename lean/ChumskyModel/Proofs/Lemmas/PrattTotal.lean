/-
  C20 for Pratt parsers: the only panics of `atom.pratt(ops)` are those of its atom / operator parsers (`pratt_go` adds no
  panic site of its own and never unwraps the pending error), and a failing Pratt parse always leaves a pending error.
  Stated over an arbitrary reading of the atom / operator grammars; plain tables here, the extension machine in `ExtTotal`.
-/
import ChumskyModel.Proofs.Lemmas.PrattRefine
import ChumskyModel.Proofs.Lemmas.Total
namespace Chumsky

section
variable {P : G → SS → SOut} {rec : Nat → SS → SOut} {env : Env}

theorem sPrattOperand_ps (hP : ∀ g s, (P g s).PS) (hrec : ∀ p s, (rec p s).PS) (start : Nat)
    (f : Val → Val → Nat × Nat → Val) (op : G) (p : Nat) (s : SS) : (sPrattOperand P rec env start f op p s).PS :=
  (hP op s).andThen fun _ s1 _ => (hrec p s1).andThen fun _ _ _ => trivial

theorem sPrattLoop_ps (hP : ∀ g s, (P g s).PS) (hrec : ∀ p s, (rec p s).PS) (ops : List PrattOp) (start : SS)
    (minP : Nat) : ∀ (k : Nat) (s : SS) (lhs : Val) (em : List Emis), (sPrattLoop P rec env ops start minP k s lhs em).PS
  | 0, _, _, _ => trivial
  | k + 1, s, lhs, em => by
    rw [sPrattLoop_succ]
    cases hr : (sPrattPostfix P env start minP lhs s ops).or (sPrattInfix P rec env start minP lhs s ops) with
    | none => trivial
    | some o =>
      have : o.PS := by
        rcases sPrattRound_some hr with ⟨_, _, _, _, rfl⟩ | ⟨_, _, _, _, _, rfl⟩
        · exact (hP _ s).andThen fun _ _ _ => trivial
        · exact sPrattOperand_ps hP hrec ..
      exact this.andThen fun v s1 _ => sPrattLoop_ps hP hrec ops start minP k s1 v _

/-- the textbook algorithm adds no panic of its own -/
theorem sPratt_ps (hP : ∀ g s, (P g s).PS) (atom : G) (ops : List PrattOp) :
    ∀ (k minP : Nat) (s : SS), (sPratt P env atom ops k minP s).PS
  | 0, _, _ => trivial
  | k + 1, minP, s => by
    have hrec := sPratt_ps hP atom ops k
    rw [sPratt_succ]
    refine SOut.PS.andThen ?_ fun v s1 e1 => sPrattLoop_ps hP hrec ops s minP k s1 v e1
    cases h : sPrattPrefix P (sPratt P env atom ops k) env s ops with
    | none => exact hP atom s
    | some o =>
      obtain ⟨_, _, _, rfl⟩ := sPrattPrefix_some h
      exact sPrattOperand_ps hP hrec ..
end

/-- **C20 for `atom.pratt(ops)`**: a panic, if any, is one of the reference semantics' panic sites reached inside the atom
    or an operator parser — never an `unwrap()` of the pending error -/
theorem runPratt_panic_sites (fuel : Nat) (env : Env) (m : Mode) (atom : G) (ops : List PrattOp) (st : St)
    (hm : env.memoOn = false) {w : Nat} (h : runPratt fuel env m atom ops st = .panic w) : SpecPanic w := by
  have hr := runPratt_refines fuel env m atom ops st hm
  have hps : (pegPratt fuel env atom ops st.ss st.ctx).PS :=
    sPratt_ps (fun g s => (peg_ps_all env fuel).1 g s st.ctx) atom ops fuel 0 st.ss
  rw [h] at hr
  rwa [hr.panic_eq] at hps

theorem runPratt_fail_alt (fuel : Nat) (env : Env) (m : Mode) (atom : G) (ops : List PrattOp) (st st' : St)
    (hm : env.memoOn = false) (h : runPratt fuel env m atom ops st = .fail st') : st'.alt.isSome = true :=
  Refines.fail_alt (h ▸ runPratt_refines fuel env m atom ops st hm)

end Chumsky
