/-
  Proofs/Lemmas/DescSim.lean — two simulations "equal up to error descriptions" (memoization off, error kind ≠ empty).

  PART 1 (C06, last sentence): `Rich`, `Simple` and `Cheap` report the same spans.  Running the same grammar with two
  error kinds gives the same control flow, values, positions, number of secondary errors and, pointwise, the same
  spans; the pending error sits at the same position with the same span.
      `run_kindSim`, `next_kindSim`, `mkIter_kindSim`, `parseTop_kindSim`          (every grammar)

  PART 2 (C17): `labelled`, `as_context` and the (span preserving) `map_err` change how a failure is described, never
  whether or where.  `G.eraseDeco` replaces every decoration by the identity wrapper `boxed`.
      `run_decoSim_weak`, `parseTop_decoSim_weak`   every grammar: same acceptance, values, cursor, inspector, context,
                                                    number (and recording positions) of the secondary errors, panics
      `run_decoSim`, `parseTop_decoSim`             full lock-step up to descriptions (also the spans of all secondary
                                                    errors and position/span of the pending = primary error), PROVIDED
                                                    no recovery strategy sits under a decoration (`G.decoSafe`)
      `decoCex_secondary`, `decoCex_primary`        the proviso is needed: with `recover_with` under a `labelled` both
                                                    the span of a secondary error and of the primary error change
                                                    (the decorated parser recovers from `alt = none`, so `take_alt()`
                                                    yields the inner error; undecorated it yields the farther old one)

  Both parts are instances of one two-run simulation (`step_sim`, `stepNext_sim`, `stepMk_sim`, `run_sim`) with
    * `b`  : erase the decorations in the second run (`G.erase b`; `erase false = id`, `erase true = eraseDeco`),
    * `s`  : relate spans (`true`: `errs` pointwise same span, `alt` related) or only the number/positions of `errs`,
    * `o`  : the shape (position, span) of the pending error the *first* run has sheltered and the second has not
             (a decorated parser runs its inner parser from `alt = none`, the undecorated one from the old pending
             error): `alt₂ ≈ comb o alt₁` where `comb` is the priority rule "maximal position, first one on ties",
             which is associative — this is why merging the sheltered error back (`labelled`'s `finish`) re-establishes
             the relation,
    * `u`/`dr` : static bookkeeping for the proviso (`G.adm`): under a decoration (`u`) no recovery strategy may occur
             when spans are related (`s`), because recovery *emits* the pending error, whose span then depends on `o`.
  `OutRel.fail` also carries "a failing run leaves a pending error" for both runs (needed for the `unwrap`s of
  `recover_with` and `map_err`), so this is re-proved here for every constructor.

  `G.erase` and `G.adm` are never unfolded by `simp` (that would generate their equation lemmas, one per constructor): one step
  of either on a constructor holds by `rfl`.
-/
import ChumskyModel.Proofs.Lemmas.StateOps
set_option linter.unusedVariables false   -- the proofs by recursion over the syntax name every field of every constructor
namespace Chumsky

/-- position and span of a located error -/
abbrev Sh := Nat × (Nat × Nat)

def Loc.sh (a : Loc) : Sh := (a.pos, a.err.span)

/-- shape of a secondary error; with `s = false` only its position -/
def Loc.shs (s : Bool) (a : Loc) : Sh := (a.pos, if s then a.err.span else (0, 0))

/-- the priority rule of `add_alt` on shapes: maximal position, the first one on ties -/
def comb : Option Sh → Option Sh → Option Sh
  | none, y => y
  | some a, none => some a
  | some a, some b => if b.1 ≤ a.1 then some a else some b

@[simp] theorem comb_none_left (y : Option Sh) : comb none y = y := rfl
@[simp] theorem comb_none_right (x : Option Sh) : comb x none = x := by cases x <;> rfl

theorem comb_assoc (x y z : Option Sh) : comb (comb x y) z = comb x (comb y z) := by
  cases x with
  | none => rfl
  | some a =>
    cases y with
    | none => rw [comb_none_right, comb_none_left]
    | some b =>
      cases z with
      | none => rw [comb_none_right, comb_none_right]
      | some c =>
        simp only [comb]
        by_cases h1 : b.1 ≤ a.1 <;> by_cases h2 : c.1 ≤ b.1 <;> simp only [h1, h2, if_true, if_false]
        · rw [if_pos (Nat.le_trans h2 h1)]
        · rw [if_neg (by omega)]

theorem comb_isSome_right (x y : Option Sh) (h : y.isSome = true) : (comb x y).isSome = true := by
  cases x with
  | none => exact h
  | some a =>
    cases y with
    | none => cases h
    | some b => simp only [comb]; split <;> rfl

theorem ErrKind.expectedFound_span {k : ErrKind} (hk : k ≠ .empty) (exp f sp) :
    (k.expectedFound exp f sp).span = sp := by
  cases k <;> first | rfl | exact absurd rfl hk

theorem ErrKind.userErr_span {k : ErrKind} (hk : k ≠ .empty) (sp msg) : (k.userErr sp msg).span = sp := by
  cases k <;> first | rfl | exact absurd rfl hk

@[simp] theorem ErrKind.merge_span (k : ErrKind) (a b : Err) : (k.merge a b).span = a.span := by
  cases k <;> rfl

@[simp] theorem ErrKind.mergeEF_span (k : ErrKind) (a : Err) (exp f sp) : (k.mergeEF a exp f sp).span = a.span := by
  cases k <;> simp only [ErrKind.mergeEF]
  split <;> rfl

@[simp] theorem ErrKind.labelWith_span (k : ErrKind) (a : Err) (l : Nat) : (k.labelWith a l).span = a.span := by
  cases k <;> simp only [ErrKind.labelWith]
  split <;> rfl

@[simp] theorem ErrKind.inContext_span (k : ErrKind) (a : Err) (l : Nat) (sp) : (k.inContext a l sp).span = a.span := by
  cases k <;> simp only [ErrKind.inContext]
  split <;> rfl

/-- the priority rule as `add_alt` and `add_alt_err` apply it to a pending error `a` and a new error `y` at `p`: on a tie
    `a` is merged into some `x` that keeps the span of `a` -/
theorem prio_sh (a : Loc) (p : Nat) (x y : Err) (hx : x.span = a.err.span) :
    (if (a.pos == p) = true then some (⟨a.pos, x⟩ : Loc) else if a.pos > p then some a else some ⟨p, y⟩).map Loc.sh =
      comb (some a.sh) (some (p, y.span)) := by
  by_cases h1 : a.pos = p
  · simp [comb, Loc.sh, h1, hx]
  · by_cases h2 : a.pos > p
    · simp [comb, Loc.sh, h1, h2, Nat.le_of_lt h2]
    · simp [comb, Loc.sh, h1, h2, show ¬ p ≤ a.pos by omega]

theorem mergeAlt_sh (ek : ErrKind) (alt : Option Loc) (p : Nat) (e : Err) :
    (St.mergeAlt ek alt p e).map Loc.sh = comb (alt.map Loc.sh) (some (p, e.span)) := by
  cases alt with
  | none => rfl
  | some a => exact prio_sh a p _ e (ErrKind.merge_span ..)

theorem addAlt_alt {env : Env} (hk : env.ek ≠ .empty) (st : St) (exp f sp) :
    (st.addAlt env exp f sp).alt.map Loc.sh = comb (st.alt.map Loc.sh) (some (st.pos, sp)) := by
  have hsp := ErrKind.expectedFound_span hk exp f sp
  cases hek : env.ek with
  | empty => exact absurd hek hk
  | _ =>
    rw [hek] at hsp
    simp only [St.addAlt, hek]
    cases st.alt with
    | none => exact congrArg (fun sp => some (st.pos, sp)) hsp
    | some a => exact (prio_sh a st.pos _ _ (ErrKind.mergeEF_span ..)).trans (by rw [ErrKind.replaceEF, hsp]; rfl)

theorem addAltErr_alt {env : Env} (hk : env.ek ≠ .empty) (st : St) (p : Nat) (e : Err) :
    (st.addAltErr env p e).alt.map Loc.sh = comb (st.alt.map Loc.sh) (some (p, e.span)) := by
  cases hek : env.ek with
  | empty => exact absurd hek hk
  | _ => simp only [St.addAltErr, hek]; exact mergeAlt_sh ..

theorem readdAlt_alt {env : Env} (hk : env.ek ≠ .empty) (st : St) (new : Option Loc) :
    (St.readdAlt env st new).alt.map Loc.sh = comb (st.alt.map Loc.sh) (new.map Loc.sh) := by
  cases new with
  | none => exact (comb_none_right _).symm
  | some n =>
    cases hek : env.ek with
    | empty => exact absurd hek hk
    | _ => simp only [St.readdAlt, hek]; exact mergeAlt_sh ..

mutual
def G.eraseDeco : G → G
  | .end_ => .end_
  | .empty => .empty
  | .any => .any
  | .just x0 => .just x0
  | .oneOf x0 => .oneOf x0
  | .noneOf x0 => .noneOf x0
  | .select x0 => .select x0
  | .custom x0 => .custom x0
  | .todo => .todo
  | .then_ x0 x1 => .then_ (G.eraseDeco x0) (G.eraseDeco x1)
  | .ignoreThen x0 x1 => .ignoreThen (G.eraseDeco x0) (G.eraseDeco x1)
  | .thenIgnore x0 x1 => .thenIgnore (G.eraseDeco x0) (G.eraseDeco x1)
  | .delimitedBy x0 x1 x2 => .delimitedBy (G.eraseDeco x0) (G.eraseDeco x1) (G.eraseDeco x2)
  | .paddedBy x0 x1 => .paddedBy (G.eraseDeco x0) (G.eraseDeco x1)
  | .group x0 => .group (eraseDecoL x0)
  | .groupArr x0 => .groupArr (eraseDecoL x0)
  | .or_ x0 x1 => .or_ (G.eraseDeco x0) (G.eraseDeco x1)
  | .choice x0 x1 => .choice x0 (eraseDecoL x1)
  | .orNot x0 => .orNot (G.eraseDeco x0)
  | .not_ x0 => .not_ (G.eraseDeco x0)
  | .andIs x0 x1 => .andIs (G.eraseDeco x0) (G.eraseDeco x1)
  | .rewind x0 => .rewind (G.eraseDeco x0)
  | .map x0 x1 => .map x0 (G.eraseDeco x1)
  | .to x0 x1 => .to x0 (G.eraseDeco x1)
  | .ignored x0 => .ignored (G.eraseDeco x0)
  | .filter x0 x1 => .filter x0 (G.eraseDeco x1)
  | .tryMap x0 x1 => .tryMap x0 (G.eraseDeco x1)
  | .tryMapWith x0 x1 => .tryMapWith x0 (G.eraseDeco x1)
  | .toSpan x0 => .toSpan (G.eraseDeco x0)
  | .toSlice x0 => .toSlice (G.eraseDeco x0)
  | .mapWithSpan x0 => .mapWithSpan (G.eraseDeco x0)
  | .mapWithState x0 => .mapWithState (G.eraseDeco x0)
  | .mapWithCtx x0 => .mapWithCtx (G.eraseDeco x0)
  | .validate x0 x1 => .validate x0 (G.eraseDeco x1)
  | .collect x0 x1 => .collect x0 (It.eraseDeco x1)
  | .collectExactly x0 x1 => .collectExactly x0 (It.eraseDeco x1)
  | .foldl x0 x1 x2 => .foldl x0 (G.eraseDeco x1) (It.eraseDeco x2)
  | .foldr x0 x1 x2 => .foldr x0 (It.eraseDeco x1) (G.eraseDeco x2)
  | .foldlWith x0 x1 => .foldlWith (G.eraseDeco x0) (It.eraseDeco x1)
  | .foldrWith x0 x1 => .foldrWith (It.eraseDeco x0) (G.eraseDeco x1)
  | .iterP x0 => .iterP (It.eraseDeco x0)
  | .recoverVia x0 x1 => .recoverVia (G.eraseDeco x0) (G.eraseDeco x1)
  | .recoverSkipUntil x0 x1 x2 x3 => .recoverSkipUntil (G.eraseDeco x0) (G.eraseDeco x1) (G.eraseDeco x2) x3
  | .recoverSkipRetry x0 x1 x2 => .recoverSkipRetry (G.eraseDeco x0) (G.eraseDeco x1) (G.eraseDeco x2)
  | .labelled x0 x1 x2 => .boxed (G.eraseDeco x2)
  | .mapErr x0 x1 => .boxed (G.eraseDeco x1)
  | .withCtx x0 x1 => .withCtx x0 (G.eraseDeco x1)
  | .ignoreWithCtx x0 x1 => .ignoreWithCtx (G.eraseDeco x0) (G.eraseDeco x1)
  | .thenWithCtx x0 x1 => .thenWithCtx (G.eraseDeco x0) (G.eraseDeco x1)
  | .mapCtx x0 x1 => .mapCtx x0 (G.eraseDeco x1)
  | .configureJust x0 x1 => .configureJust x0 x1
  | .withState x0 => .withState (G.eraseDeco x0)
  | .memoized x0 x1 => .memoized x0 (G.eraseDeco x1)
  | .call x0 => .call x0
  | .boxed x0 => .boxed (G.eraseDeco x0)
def It.eraseDeco : It → It
  | .repeated x0 x1 x2 => .repeated (G.eraseDeco x0) x1 x2
  | .separatedBy x0 x1 x2 x3 x4 x5 => .separatedBy (G.eraseDeco x0) (G.eraseDeco x1) x2 x3 x4 x5
  | .enumerate x0 => .enumerate (It.eraseDeco x0)
  | .orNotIt x0 => .orNotIt (G.eraseDeco x0)
  | .intoIter x0 => .intoIter (G.eraseDeco x0)
  | .thenIt x0 x1 => .thenIt (It.eraseDeco x0) (It.eraseDeco x1)
  | .mapIt x0 x1 => .mapIt x0 (It.eraseDeco x1)
  | .configureRep x0 x1 => .configureRep x0 (It.eraseDeco x1)
  | .tryConfigureRep x0 x1 => .tryConfigureRep x0 (It.eraseDeco x1)
def eraseDecoL : List G → List G
  | [] => []
  | g :: gs => G.eraseDeco g :: eraseDecoL gs
end

mutual
def G.erase (b : Bool) : G → G
  | .end_ => .end_
  | .empty => .empty
  | .any => .any
  | .just x0 => .just x0
  | .oneOf x0 => .oneOf x0
  | .noneOf x0 => .noneOf x0
  | .select x0 => .select x0
  | .custom x0 => .custom x0
  | .todo => .todo
  | .then_ x0 x1 => .then_ (G.erase b x0) (G.erase b x1)
  | .ignoreThen x0 x1 => .ignoreThen (G.erase b x0) (G.erase b x1)
  | .thenIgnore x0 x1 => .thenIgnore (G.erase b x0) (G.erase b x1)
  | .delimitedBy x0 x1 x2 => .delimitedBy (G.erase b x0) (G.erase b x1) (G.erase b x2)
  | .paddedBy x0 x1 => .paddedBy (G.erase b x0) (G.erase b x1)
  | .group x0 => .group (eraseL b x0)
  | .groupArr x0 => .groupArr (eraseL b x0)
  | .or_ x0 x1 => .or_ (G.erase b x0) (G.erase b x1)
  | .choice x0 x1 => .choice x0 (eraseL b x1)
  | .orNot x0 => .orNot (G.erase b x0)
  | .not_ x0 => .not_ (G.erase b x0)
  | .andIs x0 x1 => .andIs (G.erase b x0) (G.erase b x1)
  | .rewind x0 => .rewind (G.erase b x0)
  | .map x0 x1 => .map x0 (G.erase b x1)
  | .to x0 x1 => .to x0 (G.erase b x1)
  | .ignored x0 => .ignored (G.erase b x0)
  | .filter x0 x1 => .filter x0 (G.erase b x1)
  | .tryMap x0 x1 => .tryMap x0 (G.erase b x1)
  | .tryMapWith x0 x1 => .tryMapWith x0 (G.erase b x1)
  | .toSpan x0 => .toSpan (G.erase b x0)
  | .toSlice x0 => .toSlice (G.erase b x0)
  | .mapWithSpan x0 => .mapWithSpan (G.erase b x0)
  | .mapWithState x0 => .mapWithState (G.erase b x0)
  | .mapWithCtx x0 => .mapWithCtx (G.erase b x0)
  | .validate x0 x1 => .validate x0 (G.erase b x1)
  | .collect x0 x1 => .collect x0 (It.erase b x1)
  | .collectExactly x0 x1 => .collectExactly x0 (It.erase b x1)
  | .foldl x0 x1 x2 => .foldl x0 (G.erase b x1) (It.erase b x2)
  | .foldr x0 x1 x2 => .foldr x0 (It.erase b x1) (G.erase b x2)
  | .foldlWith x0 x1 => .foldlWith (G.erase b x0) (It.erase b x1)
  | .foldrWith x0 x1 => .foldrWith (It.erase b x0) (G.erase b x1)
  | .iterP x0 => .iterP (It.erase b x0)
  | .recoverVia x0 x1 => .recoverVia (G.erase b x0) (G.erase b x1)
  | .recoverSkipUntil x0 x1 x2 x3 => .recoverSkipUntil (G.erase b x0) (G.erase b x1) (G.erase b x2) x3
  | .recoverSkipRetry x0 x1 x2 => .recoverSkipRetry (G.erase b x0) (G.erase b x1) (G.erase b x2)
  | .labelled x0 x1 x2 => if b then .boxed (G.erase b x2) else .labelled x0 x1 (G.erase b x2)
  | .mapErr x0 x1 => if b then .boxed (G.erase b x1) else .mapErr x0 (G.erase b x1)
  | .withCtx x0 x1 => .withCtx x0 (G.erase b x1)
  | .ignoreWithCtx x0 x1 => .ignoreWithCtx (G.erase b x0) (G.erase b x1)
  | .thenWithCtx x0 x1 => .thenWithCtx (G.erase b x0) (G.erase b x1)
  | .mapCtx x0 x1 => .mapCtx x0 (G.erase b x1)
  | .configureJust x0 x1 => .configureJust x0 x1
  | .withState x0 => .withState (G.erase b x0)
  | .memoized x0 x1 => .memoized x0 (G.erase b x1)
  | .call x0 => .call x0
  | .boxed x0 => .boxed (G.erase b x0)
def It.erase (b : Bool) : It → It
  | .repeated x0 x1 x2 => .repeated (G.erase b x0) x1 x2
  | .separatedBy x0 x1 x2 x3 x4 x5 => .separatedBy (G.erase b x0) (G.erase b x1) x2 x3 x4 x5
  | .enumerate x0 => .enumerate (It.erase b x0)
  | .orNotIt x0 => .orNotIt (G.erase b x0)
  | .intoIter x0 => .intoIter (G.erase b x0)
  | .thenIt x0 x1 => .thenIt (It.erase b x0) (It.erase b x1)
  | .mapIt x0 x1 => .mapIt x0 (It.erase b x1)
  | .configureRep x0 x1 => .configureRep x0 (It.erase b x1)
  | .tryConfigureRep x0 x1 => .tryConfigureRep x0 (It.erase b x1)
def eraseL (b : Bool) : List G → List G
  | [] => []
  | g :: gs => G.erase b g :: eraseL b gs
end

mutual
def G.adm (s b dr : Bool) : Bool → G → Bool
  | u, .end_ => true
  | u, .empty => true
  | u, .any => true
  | u, .just x0 => true
  | u, .oneOf x0 => true
  | u, .noneOf x0 => true
  | u, .select x0 => true
  | u, .custom x0 => true
  | u, .todo => true
  | u, .then_ x0 x1 => G.adm s b dr u x0 && G.adm s b dr u x1
  | u, .ignoreThen x0 x1 => G.adm s b dr u x0 && G.adm s b dr u x1
  | u, .thenIgnore x0 x1 => G.adm s b dr u x0 && G.adm s b dr u x1
  | u, .delimitedBy x0 x1 x2 => G.adm s b dr u x0 && G.adm s b dr u x1 && G.adm s b dr u x2
  | u, .paddedBy x0 x1 => G.adm s b dr u x0 && G.adm s b dr u x1
  | u, .group x0 => admL s b dr u x0
  | u, .groupArr x0 => admL s b dr u x0
  | u, .or_ x0 x1 => G.adm s b dr u x0 && G.adm s b dr u x1
  | u, .choice x0 x1 => admL s b dr u x1
  | u, .orNot x0 => G.adm s b dr u x0
  | u, .not_ x0 => G.adm s b dr u x0
  | u, .andIs x0 x1 => G.adm s b dr u x0 && G.adm s b dr u x1
  | u, .rewind x0 => G.adm s b dr u x0
  | u, .map x0 x1 => G.adm s b dr u x1
  | u, .to x0 x1 => G.adm s b dr u x1
  | u, .ignored x0 => G.adm s b dr u x0
  | u, .filter x0 x1 => G.adm s b dr u x1
  | u, .tryMap x0 x1 => G.adm s b dr u x1
  | u, .tryMapWith x0 x1 => G.adm s b dr u x1
  | u, .toSpan x0 => G.adm s b dr u x0
  | u, .toSlice x0 => G.adm s b dr u x0
  | u, .mapWithSpan x0 => G.adm s b dr u x0
  | u, .mapWithState x0 => G.adm s b dr u x0
  | u, .mapWithCtx x0 => G.adm s b dr u x0
  | u, .validate x0 x1 => G.adm s b dr u x1
  | u, .collect x0 x1 => It.adm s b dr u x1
  | u, .collectExactly x0 x1 => It.adm s b dr u x1
  | u, .foldl x0 x1 x2 => G.adm s b dr u x1 && It.adm s b dr u x2
  | u, .foldr x0 x1 x2 => It.adm s b dr u x1 && G.adm s b dr u x2
  | u, .foldlWith x0 x1 => G.adm s b dr u x0 && It.adm s b dr u x1
  | u, .foldrWith x0 x1 => It.adm s b dr u x0 && G.adm s b dr u x1
  | u, .iterP x0 => It.adm s b dr u x0
  | u, .recoverVia x0 x1 => (!s || !u) && G.adm s b dr u x0 && G.adm s b dr u x1
  | u, .recoverSkipUntil x0 x1 x2 x3 => (!s || !u) && G.adm s b dr u x0 && G.adm s b dr u x1 && G.adm s b dr u x2
  | u, .recoverSkipRetry x0 x1 x2 => (!s || !u) && G.adm s b dr u x0 && G.adm s b dr u x1 && G.adm s b dr u x2
  | u, .labelled x0 x1 x2 => G.adm s b dr (u || b) x2
  | u, .mapErr x0 x1 => G.adm s b dr (u || b) x1
  | u, .withCtx x0 x1 => G.adm s b dr u x1
  | u, .ignoreWithCtx x0 x1 => G.adm s b dr u x0 && G.adm s b dr u x1
  | u, .thenWithCtx x0 x1 => G.adm s b dr u x0 && G.adm s b dr u x1
  | u, .mapCtx x0 x1 => G.adm s b dr u x1
  | u, .configureJust x0 x1 => true
  | u, .withState x0 => G.adm s b dr u x0
  | u, .memoized x0 x1 => G.adm s b dr u x1
  | u, .call x0 => (!s || !u || dr)
  | u, .boxed x0 => G.adm s b dr u x0
def It.adm (s b dr : Bool) : Bool → It → Bool
  | u, .repeated x0 x1 x2 => G.adm s b dr u x0
  | u, .separatedBy x0 x1 x2 x3 x4 x5 => G.adm s b dr u x0 && G.adm s b dr u x1
  | u, .enumerate x0 => It.adm s b dr u x0
  | u, .orNotIt x0 => G.adm s b dr u x0
  | u, .intoIter x0 => G.adm s b dr u x0
  | u, .thenIt x0 x1 => It.adm s b dr u x0 && It.adm s b dr u x1
  | u, .mapIt x0 x1 => It.adm s b dr u x1
  | u, .configureRep x0 x1 => It.adm s b dr u x1
  | u, .tryConfigureRep x0 x1 => It.adm s b dr u x1
def admL (s b dr : Bool) : Bool → List G → Bool
  | _, [] => true
  | u, g :: gs => G.adm s b dr u g && admL s b dr u gs
end

theorem G.erase_false : ∀ g : G, g.erase false = g := by
  intro g
  induction g using G.rec (motive_2 := fun it => it.erase false = it) (motive_3 := fun gs => eraseL false gs = gs)
  all_goals (conv => lhs; whnf)
  all_goals simp only [*]

theorem It.erase_false : ∀ it : It, it.erase false = it :=
  fun it => G.iterP.inj (G.erase_false (.iterP it))

theorem eraseL_false : ∀ gs : List G, eraseL false gs = gs :=
  fun gs => G.group.inj (G.erase_false (.group gs))

theorem G.erase_true : ∀ g : G, g.erase true = g.eraseDeco := by
  intro g
  induction g using G.rec (motive_2 := fun it => it.erase true = it.eraseDeco)
    (motive_3 := fun gs => eraseL true gs = eraseDecoL gs)
  all_goals (conv => lhs; whnf)
  all_goals (conv => rhs; whnf)
  all_goals simp only [*]

theorem It.erase_true : ∀ it : It, it.erase true = it.eraseDeco :=
  fun it => G.iterP.inj (G.erase_true (.iterP it))

theorem eraseL_true : ∀ gs : List G, eraseL true gs = eraseDecoL gs :=
  fun gs => G.group.inj (G.erase_true (.group gs))

theorem band_intro {x y : Bool} (hx : x = true) (hy : y = true) : (x && y) = true :=
  Bool.and_eq_true_iff.mpr ⟨hx, hy⟩

theorem band_elim {x y : Bool} (h : (x && y) = true) : x = true ∧ y = true :=
  Bool.and_eq_true_iff.mp h

theorem recover_adm {s u b : Bool} (h : (s && (u || b)) = false) : (!s || !u) = true := by
  cases s <;> cases u <;> first | rfl | cases h

theorem under_adm {s u b : Bool} (h : (s && (u || b)) = false) : (s && (u || b || b)) = false := by
  cases s <;> cases u <;> cases b <;> first | rfl | cases h

theorem G.adm_of (s b dr : Bool) (g : G) (u : Bool) (h : (s && (u || b)) = false) : g.adm s b dr u = true := by
  induction g using G.rec (motive_2 := fun it => ∀ u : Bool, (s && (u || b)) = false → it.adm s b dr u = true)
    (motive_3 := fun gs => ∀ u : Bool, (s && (u || b)) = false → admL s b dr u gs = true) generalizing u with
  | end_ | empty | any | just | oneOf | noneOf | select | custom | todo | configureJust | nil => rfl
  | orNot _ ih | not_ _ ih | rewind _ ih | map _ _ ih | to _ _ ih | ignored _ ih | filter _ _ ih | tryMap _ _ ih
  | tryMapWith _ _ ih | toSpan _ ih | toSlice _ ih | mapWithSpan _ ih | mapWithState _ ih | mapWithCtx _ ih
  | validate _ _ ih | withCtx _ _ ih | mapCtx _ _ ih | withState _ ih | memoized _ _ ih | boxed _ ih
  | group _ ih | groupArr _ ih | choice _ _ ih | collect _ _ ih | collectExactly _ _ ih | iterP _ ih
  | repeated _ _ _ ih | orNotIt _ ih | intoIter _ ih | enumerate _ ih | mapIt _ _ ih | configureRep _ _ ih
  | tryConfigureRep _ _ ih => exact ih _ ‹_›
  | labelled _ _ _ ih | mapErr _ _ ih => exact ih _ (under_adm ‹_›)
  | then_ _ _ ih1 ih2 | ignoreThen _ _ ih1 ih2 | thenIgnore _ _ ih1 ih2 | paddedBy _ _ ih1 ih2 | or_ _ _ ih1 ih2
  | andIs _ _ ih1 ih2 | ignoreWithCtx _ _ ih1 ih2 | thenWithCtx _ _ ih1 ih2 | foldl _ _ _ ih1 ih2 | foldlWith _ _ ih1 ih2
  | foldr _ _ _ ih1 ih2 | foldrWith _ _ ih1 ih2 | separatedBy _ _ _ _ _ _ ih1 ih2 | thenIt _ _ ih1 ih2 | cons _ _ ih1 ih2 =>
    exact band_intro (ih1 _ ‹_›) (ih2 _ ‹_›)
  | delimitedBy _ _ _ ih1 ih2 ih3 => exact band_intro (band_intro (ih1 _ ‹_›) (ih2 _ ‹_›)) (ih3 _ ‹_›)
  | recoverVia _ _ ih1 ih2 => exact band_intro (band_intro (recover_adm ‹_›) (ih1 _ ‹_›)) (ih2 _ ‹_›)
  | recoverSkipUntil _ _ _ _ ih1 ih2 ih3 | recoverSkipRetry _ _ _ ih1 ih2 ih3 =>
    exact band_intro (band_intro (band_intro (recover_adm ‹_›) (ih1 _ ‹_›)) (ih2 _ ‹_›)) (ih3 _ ‹_›)
  | call => exact (congrArg (· || dr) (recover_adm ‹_›)).trans (Bool.true_or dr)

theorem It.adm_of (s b dr : Bool) (it : It) (u : Bool) (h : (s && (u || b)) = false) : it.adm s b dr u = true :=
  G.adm_of s b dr (.iterP it) u h

theorem admL_of (s b dr : Bool) (gs : List G) (u : Bool) (h : (s && (u || b)) = false) : admL s b dr u gs = true :=
  G.adm_of s b dr (.group gs) u h

theorem G.adm_weak (b dr : Bool) : ∀ (u : Bool) (g : G), g.adm false b dr u = true :=
  fun u g => G.adm_of false b dr g u rfl

theorem It.adm_weak (b dr : Bool) : ∀ (u : Bool) (it : It), it.adm false b dr u = true :=
  fun u it => It.adm_of false b dr it u rfl

theorem admL_weak (b dr : Bool) : ∀ (u : Bool) (gs : List G), admL false b dr u gs = true :=
  fun u gs => admL_of false b dr gs u rfl

theorem G.adm_kind (s dr : Bool) : ∀ g : G, g.adm s false dr false = true :=
  fun g => G.adm_of s false dr g false (Bool.and_false s)

theorem It.adm_kind (s dr : Bool) : ∀ it : It, it.adm s false dr false = true :=
  fun it => It.adm_of s false dr it false (Bool.and_false s)

theorem admL_kind (s dr : Bool) : ∀ gs : List G, admL s false dr false gs = true :=
  fun gs => admL_of s false dr gs false (Bool.and_false s)

/-- secondary errors: same number, same positions and (if `s`) same spans -/
def errRel (s : Bool) (e1 e2 : List Loc) : Prop := e1.map (Loc.shs s) = e2.map (Loc.shs s)

/-- pending error: the second run holds the first run's one merged behind the sheltered shape `o` -/
def altRel (o : Option Sh) (a1 a2 : Option Loc) : Prop := a2.map Loc.sh = comb o (a1.map Loc.sh)

theorem altRel.eq {o a1 a2} (h : altRel o a1 a2) : a2.map Loc.sh = comb o (a1.map Loc.sh) := h

structure Rel (o : Option Sh) (s : Bool) (a b : St) : Prop where
  pos : a.pos = b.pos
  insp : a.insp = b.insp
  ctx : a.ctx = b.ctx
  errs : errRel s a.errs b.errs
  alt : s = true → altRel o a.alt b.alt

theorem errRel.length {s} {a b : List Loc} (h : errRel s a b) : a.length = b.length := by
  have := congrArg List.length h
  simpa using this

theorem errRel.take {s} {a b : List Loc} (h : errRel s a b) (n : Nat) : errRel s (a.take n) (b.take n) := by
  simp only [errRel, List.map_take] at h ⊢
  rw [h]

theorem errRel.append {s} {a b a' b' : List Loc} (h : errRel s a b) (h' : errRel s a' b') :
    errRel s (a ++ a') (b ++ b') := by
  simp only [errRel, List.map_append] at h h' ⊢
  rw [h, h']

theorem errRel.single {s} {x y : Loc} (h : Loc.shs s x = Loc.shs s y) : errRel s [x] [y] := by
  simp [errRel, h]

theorem errRel.replicate {s} {x y : Loc} (h : Loc.shs s x = Loc.shs s y) (n : Nat) :
    errRel s (List.replicate n x) (List.replicate n y) := by
  simp [errRel, List.map_replicate, h]

theorem ctxSecondary_shs (s : Bool) (env : Env) (l start n : Nat) (errs : List Loc) :
    (ctxSecondary env l start n errs).map (Loc.shs s) = errs.map (Loc.shs s) := by
  have hf : (Loc.shs s ∘ fun e : Loc => (⟨e.pos, env.ek.inContext e.err l (env.mkSpan start e.pos)⟩ : Loc)) = Loc.shs s := by
    funext e; simp [Loc.shs]
  simp only [ctxSecondary, List.map_append, List.map_map, hf]
  rw [← List.map_append, List.take_append_drop]

theorem errRel.ctxSec_left {s} {a b : List Loc} (h : errRel s a b) (env : Env) (l start n : Nat) :
    errRel s (ctxSecondary env l start n a) b := by
  simp only [errRel, ctxSecondary_shs]; exact h

theorem errRel.ctxSec {s} {a b : List Loc} (h : errRel s a b) (env1 env2 : Env) (l start n : Nat) :
    errRel s (ctxSecondary env1 l start n a) (ctxSecondary env2 l start n b) := by
  simp only [errRel, ctxSecondary_shs]; exact h

theorem shs_of_sh {s} {x y : Loc} (h : x.sh = y.sh) : Loc.shs s x = Loc.shs s y := by
  simp only [Loc.sh, Prod.mk.injEq] at h
  simp [Loc.shs, h.1, h.2]

namespace Rel
variable {o : Option Sh} {s : Bool} {a b : St}

theorem save (h : Rel o s a b) : a.save = b.save := by
  simp [St.save, h.pos, h.insp, h.errs.length]

theorem rewind (h : Rel o s a b) (c : Chk) : Rel o s (a.rewind c) (b.rewind c) :=
  ⟨rfl, rfl, h.ctx, h.errs.take _, h.alt⟩

theorem rewindInput (h : Rel o s a b) (c : Chk) : Rel o s (a.rewindInput c) (b.rewindInput c) :=
  ⟨rfl, rfl, h.ctx, h.errs, h.alt⟩

theorem rewindEq (h : Rel o s a b) {c1 c2 : Chk} (hc : c1 = c2) : Rel o s (a.rewind c1) (b.rewind c2) :=
  hc ▸ h.rewind c1

theorem rewindInputEq (h : Rel o s a b) {c1 c2 : Chk} (hc : c1 = c2) : Rel o s (a.rewindInput c1) (b.rewindInput c2) :=
  hc ▸ h.rewindInput c1

theorem setCtx (h : Rel o s a b) (c : Val) : Rel o s { a with ctx := c } { b with ctx := c } :=
  ⟨h.pos, h.insp, rfl, h.errs, h.alt⟩

theorem setInsp (h : Rel o s a b) (i : List Nat) : Rel o s { a with insp := i } { b with insp := i } :=
  ⟨h.pos, rfl, h.ctx, h.errs, h.alt⟩

theorem altNone (h : Rel o s a b) : Rel none s { a with alt := none } { b with alt := none } :=
  ⟨h.pos, h.insp, h.ctx, h.errs, fun _ => rfl⟩

/-- only the first run shelters its pending error (decoration erased in the second run) -/
theorem altNoneLeft (h : Rel o s a b) : Rel (comb o (a.alt.map Loc.sh)) s { a with alt := none } b :=
  ⟨h.pos, h.insp, h.ctx, h.errs, fun hs => by simpa [altRel] using h.alt hs⟩

theorem changeO {o'} (h : Rel o s a b) (ho : s = true → o = o') : Rel o' s a b :=
  ⟨h.pos, h.insp, h.ctx, h.errs, fun hs => ho hs ▸ h.alt hs⟩

theorem setAlt {o'} (h : Rel o s a b) {x y : Option Loc} (hxy : s = true → altRel o' x y) :
    Rel o' s { a with alt := x } { b with alt := y } :=
  ⟨h.pos, h.insp, h.ctx, h.errs, hxy⟩

theorem setAltLog {o'} (h : Rel o s a b) {x y : Option Loc} (hxy : s = true → altRel o' x y) (l1 l2 : List Loc) :
    Rel o' s { a with alt := x, log := l1 } { b with alt := y, log := l2 } :=
  ⟨h.pos, h.insp, h.ctx, h.errs, hxy⟩

theorem setErrs (h : Rel o s a b) {x y : List Loc} (hxy : errRel s x y) :
    Rel o s { a with errs := x } { b with errs := y } :=
  ⟨h.pos, h.insp, h.ctx, hxy, h.alt⟩

theorem emit (h : Rel o s a b) (p : Nat) {e1 e2 : Err} (he : Loc.shs s ⟨p, e1⟩ = Loc.shs s ⟨p, e2⟩) :
    Rel o s (a.emit p e1) (b.emit p e2) :=
  ⟨h.pos, h.insp, h.ctx, h.errs.append (errRel.single he), h.alt⟩

theorem addAlt {env1 env2 : Env} (h1 : env1.ek ≠ .empty) (h2 : env2.ek ≠ .empty) (h : Rel o s a b) (exp f sp) :
    Rel o s (a.addAlt env1 exp f sp) (b.addAlt env2 exp f sp) := by
  refine ⟨by simp [h.pos], by simp [h.insp], by simp [h.ctx], by simpa using h.errs, ?_⟩
  intro hs
  simp only [altRel, addAlt_alt h1, addAlt_alt h2, (h.alt hs).eq, comb_assoc, h.pos]

theorem addAltErr {env1 env2 : Env} (h1 : env1.ek ≠ .empty) (h2 : env2.ek ≠ .empty) (h : Rel o s a b)
    (p : Nat) {e1 e2 : Err} (he : e1.span = e2.span) :
    Rel o s (a.addAltErr env1 p e1) (b.addAltErr env2 p e2) := by
  refine ⟨by simp [h.pos], by simp [h.insp], by simp [h.ctx], by simpa using h.errs, ?_⟩
  intro hs
  simp only [altRel, addAltErr_alt h1, addAltErr_alt h2, (h.alt hs).eq, comb_assoc, he]

theorem readdAlt {env1 env2 : Env} (h1 : env1.ek ≠ .empty) (h2 : env2.ek ≠ .empty) (h : Rel o s a b)
    {n1 n2 : Option Loc} (hn : n1.map Loc.sh = n2.map Loc.sh) :
    Rel o s (St.readdAlt env1 a n1) (St.readdAlt env2 b n2) := by
  refine ⟨by simp [h.pos], by simp [h.insp], by simp [h.ctx], by simpa using h.errs, ?_⟩
  intro hs
  simp only [altRel, readdAlt_alt h1, readdAlt_alt h2, (h.alt hs).eq, comb_assoc, hn]

/-- only the first run re-adds (decoration erased in the second run): the second run's pending error already is
    the merge -/
theorem readdAltLeft {env1 : Env} (h1 : env1.ek ≠ .empty) {old : Option Loc} {a b : St}
    (h : Rel (comb o (old.map Loc.sh)) s a b) {n1 : Option Loc} (hn : n1.map Loc.sh = a.alt.map Loc.sh) :
    Rel o s (St.readdAlt env1 { a with alt := old } n1) b := by
  refine ⟨by simp [h.pos], by simp [h.insp], by simp [h.ctx], by simpa using h.errs, ?_⟩
  intro hs
  simp only [altRel, readdAlt_alt h1, (h.alt hs).eq, comb_assoc, hn]

end Rel

theorem readdAlt_isSome {env : Env} (hk : env.ek ≠ .empty) (st : St) (n : Option Loc)
    (h : st.alt.isSome = true ∨ n.isSome = true) : (St.readdAlt env st n).alt.isSome = true := by
  rw [readdAlt_alt_isSome]
  exact Bool.or_eq_true_iff.mpr h

/-- the two environments: same input, error kinds `≠ empty`, memoization off, definitions erased alike -/
structure EnvRel (s b dr : Bool) (env1 env2 : Env) : Prop where
  toks : env2.toks = env1.toks
  kind : env2.kind = env1.kind
  tspans : env2.tspans = env1.tspans
  eoi : env2.eoi = env1.eoi
  ek1 : env1.ek ≠ .empty
  ek2 : env2.ek ≠ .empty
  m1 : env1.memoOn = false
  m2 : env2.memoOn = false
  defs : env2.defs = env1.defs.map (G.erase b)
  adm : ∀ (k : Nat) (d : G) (u : Bool), env1.defs[k]? = some d → (u = false ∨ s = false ∨ dr = true) → d.adm s b dr u = true

namespace EnvRel
variable {s b dr : Bool} {env1 env2 : Env}

theorem mkSpan (he : EnvRel s b dr env1 env2) (i j : Nat) : env2.mkSpan i j = env1.mkSpan i j := by
  simp only [Env.mkSpan, he.toks, he.kind, he.tspans, he.eoi]

theorem off (he : EnvRel s b dr env1 env2) (i : Nat) : env2.off i = env1.off i := by
  simp only [Env.off, he.toks, he.kind]

theorem mkSpan_eq (he : EnvRel s b dr env1 env2) : env2.mkSpan = env1.mkSpan :=
  funext fun i => funext (he.mkSpan i)

theorem span (he : EnvRel s b dr env1 env2) {o o' : Option Sh} {s' s'' : Bool} {x1 x2 y1 y2 : St}
    (hx : Rel o s' x1 x2) (hy : Rel o' s'' y1 y2) : env2.mkSpan x2.pos y2.pos = env1.mkSpan x1.pos y1.pos := by
  rw [he.mkSpan, hx.pos, hy.pos]

end EnvRel

inductive OutRel (o : Option Sh) (s : Bool) : Out → Out → Prop
  | ok (v : Val) {a b : St} : Rel o s a b → OutRel o s (.ok v a) (.ok v b)
  | fail {a b : St} : Rel o s a b → (a.alt.isSome = true ∧ b.alt.isSome = true) → OutRel o s (.fail a) (.fail b)
  | panic (w : Nat) : OutRel o s (.panic w) (.panic w)
  | oof : OutRel o s .oof .oof

inductive ItRel (o : Option Sh) (s : Bool) : ItOut → ItOut → Prop
  | some (v : Val) (ist : ItSt) {a b : St} : Rel o s a b → ItRel o s (.some v a ist) (.some v b ist)
  | done (ist : ItSt) {a b : St} : Rel o s a b → ItRel o s (.done a ist) (.done b ist)
  | fail {a b : St} : Rel o s a b → (a.alt.isSome = true ∧ b.alt.isSome = true) → ItRel o s (.fail a) (.fail b)
  | panic (w : Nat) : ItRel o s (.panic w) (.panic w)
  | oof : ItRel o s .oof .oof

inductive MkRel (o : Option Sh) (s : Bool) : MkOut → MkOut → Prop
  | ok (ist : ItSt) {a b : St} : Rel o s a b → MkRel o s (.ok ist a) (.ok ist b)
  | fail {a b : St} : Rel o s a b → (a.alt.isSome = true ∧ b.alt.isSome = true) → MkRel o s (.fail a) (.fail b)
  | panic (w : Nat) : MkRel o s (.panic w) (.panic w)
  | oof : MkRel o s .oof .oof

/-! ### sequencing

  Whatever two programs do with the results of two related sub-runs, it is enough to relate what they do with related
  successes, with related failures, with the same panic and with exhausted fuel (`.fail .panic .oof` as the last three
  arguments: all but success is passed on).  `P` is the goal with the two results abstracted, so both must occur in it:
  where the machine matches on the result directly, its clause is unfolded first (`unfold_runs`); its named helpers
  (`Out.andThen`, `Out.restoreCtx`, `Out.restoreInsp`) have lemmas of their own, which apply as they stand. -/

@[elab_as_elim] theorem OutRel.elim {o s} {P : Out → Out → Prop} {x y : Out} (h : OutRel o s x y)
    (ok : ∀ {a b} v, Rel o s a b → P (.ok v a) (.ok v b))
    (fail : ∀ {a b}, Rel o s a b → a.alt.isSome = true ∧ b.alt.isSome = true → P (.fail a) (.fail b))
    (panic : ∀ w, P (.panic w) (.panic w)) (oof : P .oof .oof) : P x y := by
  cases h with
  | ok v h => exact ok v h
  | fail h h' => exact fail h h'
  | panic w => exact panic w
  | oof => exact oof

@[elab_as_elim] theorem ItRel.elim {o s} {P : ItOut → ItOut → Prop} {x y : ItOut} (h : ItRel o s x y)
    (some : ∀ {a b} v ist, Rel o s a b → P (.some v a ist) (.some v b ist))
    (done : ∀ {a b} ist, Rel o s a b → P (.done a ist) (.done b ist))
    (fail : ∀ {a b}, Rel o s a b → a.alt.isSome = true ∧ b.alt.isSome = true → P (.fail a) (.fail b))
    (panic : ∀ w, P (.panic w) (.panic w)) (oof : P .oof .oof) : P x y := by
  cases h with
  | some v ist h => exact some v ist h
  | done ist h => exact done ist h
  | fail h h' => exact fail h h'
  | panic w => exact panic w
  | oof => exact oof

@[elab_as_elim] theorem MkRel.elim {o s} {P : MkOut → MkOut → Prop} {x y : MkOut} (h : MkRel o s x y)
    (ok : ∀ {a b} ist, Rel o s a b → P (.ok ist a) (.ok ist b))
    (fail : ∀ {a b}, Rel o s a b → a.alt.isSome = true ∧ b.alt.isSome = true → P (.fail a) (.fail b))
    (panic : ∀ w, P (.panic w) (.panic w)) (oof : P .oof .oof) : P x y := by
  cases h with
  | ok ist h => exact ok ist h
  | fail h h' => exact fail h h'
  | panic w => exact panic w
  | oof => exact oof

/-- one step of both runs: the function at the head of each side of the relation is unfolded on the input at hand (in the
    second run this also erases the decoration of the head constructor) -/
macro "unfold_runs" : tactic => `(tactic| conv => congr <;> whnf)

theorem rel_ite {β : Type} {P : β → β → Prop} {c1 c2 : Prop} [Decidable c1] [Decidable c2] (hc : c1 ↔ c2) {x y x' y' : β}
    (h1 : P x y) (h2 : P x' y') : P (if c1 then x else x') (if c2 then y else y') := by
  by_cases h : c1
  · rw [if_pos h, if_pos (hc.mp h)]; exact h1
  · rw [if_neg h, if_neg (mt hc.mpr h)]; exact h2

theorem OutRel.andThen {o s} {x y : Out} {f1 f2 : Val → St → Out} (h : OutRel o s x y)
    (hok : ∀ {a b} v, Rel o s a b → OutRel o s (f1 v a) (f2 v b)) : OutRel o s (x.andThen f1) (y.andThen f2) :=
  h.elim hok .fail .panic .oof

theorem OutRel.restoreCtx {o s} {x y : Out} (h : OutRel o s x y) {c1 c2 : Val} (hc : c1 = c2) :
    OutRel o s (x.restoreCtx c1) (y.restoreCtx c2) := by
  subst hc
  exact h.elim (fun v h => .ok v (h.setCtx _)) (fun h hp => .fail (h.setCtx _) hp) .panic .oof

theorem OutRel.restoreInsp {o s} {x y : Out} (h : OutRel o s x y) {i1 i2 : List Nat} (hi : i1 = i2) :
    OutRel o s (x.restoreInsp i1) (y.restoreInsp i2) := by
  subst hi
  exact h.elim (fun v h => .ok v (h.setInsp _)) (fun h hp => .fail (h.setInsp _) hp) .panic .oof

theorem OutRel.ok_eq {o s} {v1 v2 : Val} {a b : St} (hv : v1 = v2) (h : Rel o s a b) : OutRel o s (.ok v1 a) (.ok v2 b) :=
  hv ▸ .ok v1 h

def SimR (s b dr : Bool) (env1 env2 : Env) (R1 R2 : Runner) : Prop :=
  ∀ (o : Option Sh) (u : Bool) (m : Mode) (g : G) (st1 st2 : St), Rel o s st1 st2 → g.adm s b dr u = true →
    (s = true → u = false → o = none) → OutRel o s (R1 env1 m g st1) (R2 env2 m (g.erase b) st2)

def SimN (s b dr : Bool) (env1 env2 : Env) (N1 N2 : NextRunner) : Prop :=
  ∀ (o : Option Sh) (u : Bool) (m : Mode) (it : It) (st1 st2 : St) (ist : ItSt), Rel o s st1 st2 →
    it.adm s b dr u = true → (s = true → u = false → o = none) →
    ItRel o s (N1 env1 m it st1 ist) (N2 env2 m (it.erase b) st2 ist)

def SimK (s b dr : Bool) (env1 env2 : Env) (K1 K2 : MkRunner) : Prop :=
  ∀ (o : Option Sh) (u : Bool) (m : Mode) (it : It) (st1 st2 : St), Rel o s st1 st2 →
    it.adm s b dr u = true → (s = true → u = false → o = none) →
    MkRel o s (K1 env1 m it st1) (K2 env2 m (it.erase b) st2)

theorem It.nonconsOk_erase (b : Bool) : ∀ it : It, (it.erase b).nonconsOk = it.nonconsOk
  | .repeated .. | .separatedBy .. | .orNotIt _ | .intoIter _ => rfl
  | .enumerate it | .mapIt _ it | .configureRep _ it | .tryConfigureRep _ it => It.nonconsOk_erase b it
  | .thenIt x y => by
    show ((x.erase b).nonconsOk && (y.erase b).nonconsOk) = _
    rw [It.nonconsOk_erase b x, It.nonconsOk_erase b y]; rfl

section
variable {s b dr : Bool} {env1 env2 : Env} {o : Option Sh}

theorem next_fst (he : EnvRel s b dr env1 env2) {st1 st2 : St} (hs : Rel o s st1 st2) :
    (St.next env2 st2).1 = (St.next env1 st1).1 := by
  simp only [St.next, he.toks, ← hs.pos]
  cases env1.toks[st1.pos]? <;> rfl

theorem next_snd (he : EnvRel s b dr env1 env2) {st1 st2 : St} (hs : Rel o s st1 st2) :
    Rel o s (St.next env1 st1).2 (St.next env2 st2).2 := by
  simp only [St.next, he.toks, ← hs.pos]
  cases env1.toks[st1.pos]? with
  | none => exact hs
  | some t => exact ⟨by simp [hs.pos], by simp [hs.insp], hs.ctx, hs.errs, hs.alt⟩

theorem peek_eq (he : EnvRel s b dr env1 env2) {st1 st2 : St} (hs : Rel o s st1 st2) :
    St.peek env2 st2 = St.peek env1 st1 := by
  simp only [St.peek, he.toks, hs.pos]

theorem OutRel.failAddAlt (he : EnvRel s b dr env1 env2) {a c : St} (h : Rel o s a c) (exp : List Pat)
    {f1 f2 : Option Nat} (hf : f2 = f1) {sp1 sp2 : Nat × Nat} (hsp : sp2 = sp1) :
    OutRel o s (.fail (a.addAlt env1 exp f1 sp1)) (.fail (c.addAlt env2 exp f2 sp2)) := by
  subst hf hsp
  exact .fail (h.addAlt he.ek1 he.ek2 exp _ _) ⟨addAlt_alt_isSome .., addAlt_alt_isSome ..⟩

theorem OutRel.failUser (he : EnvRel s b dr env1 env2) {a c : St} (h : Rel o s a c) {p1 p2 : Nat} (hp : p2 = p1)
    {sp1 sp2 : Nat × Nat} (hsp : sp2 = sp1) (msg : Nat) :
    OutRel o s (.fail (a.addAltErr env1 p1 (env1.ek.userErr sp1 msg))) (.fail (c.addAltErr env2 p2 (env2.ek.userErr sp2 msg))) := by
  subst hp hsp
  exact .fail (h.addAltErr he.ek1 he.ek2 _ (by rw [ErrKind.userErr_span he.ek1, ErrKind.userErr_span he.ek2]))
    ⟨addAltErr_alt_isSome .., addAltErr_alt_isSome ..⟩

theorem tokenPrim_sim (he : EnvRel s b dr env1 env2) {st1 st2 : St} (hs : Rel o s st1 st2) (m : Mode)
    (acc : Nat → Option Val) (exp : List Pat) :
    OutRel o s (tokenPrim env1 m st1 acc exp) (tokenPrim env2 m st2 acc exp) := by
  have hn := next_snd he hs
  simp only [tokenPrim, next_fst he hs]
  cases ((St.next env1 st1).1.bind acc) with
  | some v => exact .ok _ hn
  | none => exact .failAddAlt he (hn.rewindEq hs.save) _ rfl (he.span hs hn)

theorem justStep_sim (he : EnvRel s b dr env1 env2) (v : Val) : ∀ (ts : List Nat) {st1 st2 : St}, Rel o s st1 st2 →
    OutRel o s (match justRun env1 ts st1 with | .inr st' => .ok v st' | .inl st' => .fail st')
      (match justRun env2 ts st2 with | .inr st' => .ok v st' | .inl st' => .fail st')
  | [], _, _, hs => .ok v hs
  | e :: es, _, _, hs => by
    have hn := next_snd he hs
    simp only [justRun, next_fst he hs]
    exact rel_ite (P := fun x y : St ⊕ St => OutRel o s (match x with | .inr st' => .ok v st' | .inl st' => .fail st')
      (match y with | .inr st' => .ok v st' | .inl st' => .fail st')) Iff.rfl (justStep_sim he v es hn)
      (.failAddAlt he (hn.rewindEq hs.save) _ rfl (he.span hs hn))

theorem runCustom_sim (he : EnvRel s b dr env1 env2) {st1 st2 : St} (hs : Rel o s st1 st2) (m : Mode) (f : CustomFn) :
    OutRel o s (runCustom env1 m f st1) (runCustom env2 m f st2) := by
  have hn := next_snd he hs
  cases f with
  | next msg =>
    simp only [runCustom, next_fst he hs]
    cases (St.next env1 st1).1 with
    | some t => exact .ok _ hn
    | none => exact .failUser he hn hs.pos.symm (he.span hs hn) msg
  | take2Fail msg => exact .failUser he (next_snd he hn) hs.pos.symm (he.span hs (next_snd he hn)) msg
  | nothing => exact .ok _ hs
  | failNow msg => exact .failUser he hs hs.pos.symm (he.span hs hs) msg

/-- `st'` is `st` with the sheltered error `old` merged back in front of the pending error (descriptions aside) -/
structure Reshelter (old : Option Loc) (st st' : St) : Prop where
  pos : st'.pos = st.pos
  insp : st'.insp = st.insp
  ctx : st'.ctx = st.ctx
  errs : ∀ s, st'.errs.map (Loc.shs s) = st.errs.map (Loc.shs s)
  alt : st'.alt.map Loc.sh = comb (old.map Loc.sh) (st.alt.map Loc.sh)

theorem Rel.altEq {a c : St} (h : Rel none s a c) (hs : s = true) : a.alt.map Loc.sh = c.alt.map Loc.sh := by
  have := (h.alt hs).eq
  simpa using this.symm

theorem Rel.reshelter {old1 old2 : Option Loc} {a a' c c' : St} (h : Rel none s a c)
    (h1 : Reshelter old1 a a') (h2 : Reshelter old2 c c') (hold : s = true → altRel o old1 old2) : Rel o s a' c' := by
  refine ⟨by rw [h1.pos, h2.pos, h.pos], by rw [h1.insp, h2.insp, h.insp], by rw [h1.ctx, h2.ctx, h.ctx], ?_, ?_⟩
  · simp only [errRel, h1.errs, h2.errs]; exact h.errs
  · intro hs
    simp only [altRel, h1.alt, h2.alt, (hold hs).eq, comb_assoc, h.altEq hs]

theorem Rel.reshelterLeft {old1 : Option Loc} {a a' c : St} (h : Rel (comb o (old1.map Loc.sh)) s a c)
    (h1 : Reshelter old1 a a') : Rel o s a' c := by
  refine ⟨by rw [h1.pos, h.pos], by rw [h1.insp, h.insp], by rw [h1.ctx, h.ctx], ?_, ?_⟩
  · simp only [errRel, h1.errs]; exact h.errs
  · intro hs
    simp only [altRel, h1.alt, (h.alt hs).eq, comb_assoc]

theorem Reshelter.isSome_of_new {old : Option Loc} {st st' : St} (h : Reshelter old st st') (hn : st.alt.isSome = true) :
    st'.alt.isSome = true := by
  have := comb_isSome_right (old.map Loc.sh) (st.alt.map Loc.sh) (by simpa using hn)
  rw [← h.alt] at this
  simpa using this

theorem OutRel.failReshelter {old1 old2 : Option Loc} {a a' c c' : St} (h : Rel none s a c)
    (hp : a.alt.isSome = true ∧ c.alt.isSome = true) (h1 : Reshelter old1 a a') (h2 : Reshelter old2 c c')
    (hold : s = true → altRel o old1 old2) : OutRel o s (.fail a') (.fail c') :=
  .fail (h.reshelter h1 h2 hold) ⟨h1.isSome_of_new hp.1, h2.isSome_of_new hp.2⟩

theorem OutRel.failReshelterLeft {old1 : Option Loc} {a a' c : St} (h : Rel (comb o (old1.map Loc.sh)) s a c)
    (hp : a.alt.isSome = true ∧ c.alt.isSome = true) (h1 : Reshelter old1 a a') : OutRel o s (.fail a') (.fail c) :=
  .fail (h.reshelterLeft h1) ⟨h1.isSome_of_new hp.1, hp.2⟩

theorem readdAlt_reshelter {env : Env} (hk : env.ek ≠ .empty) (old : Option Loc) (st : St) (n : Option Loc)
    (hn : n.map Loc.sh = st.alt.map Loc.sh) : Reshelter old st (St.readdAlt env { st with alt := old } n) :=
  ⟨by simp, by simp, by simp, fun s => by simp, by simp [readdAlt_alt hk, hn]⟩

/-- how `labelled` relabels the pending error `n` of its inner parser (checkpoint `c` before the inner parser) -/
def labErr (env : Env) (l : Nat) (asCtx : Bool) (c : Chk) (n : Loc) : Err :=
  if n.pos == c.pos then env.ek.labelWith n.err l
  else if asCtx && n.pos > c.pos then env.ek.inContext n.err l (env.mkSpan c.pos n.pos)
  else n.err

theorem labErr_span (env : Env) (l : Nat) (asCtx : Bool) (c : Chk) (n : Loc) :
    (labErr env l asCtx c n).span = n.err.span := by
  unfold labErr
  split
  · exact ErrKind.labelWith_span ..
  · split
    · exact ErrKind.inContext_span ..
    · rfl

/-- the `finish` closure of `labelled`: the sheltered error `old` is put back and the new pending error merged into it… -/
def labMerge (env : Env) (l : Nat) (asCtx : Bool) (old : Option Loc) (c : Chk) (st1 : St) : St :=
  match st1.alt with
  | none => { st1 with alt := old }
  | some n => St.readdAlt env { st1 with alt := old } (some ⟨n.pos, labErr env l asCtx c n⟩)

/-- …and `as_context` also puts the secondary errors recorded since `c` in context -/
def labFinish (env : Env) (l : Nat) (asCtx : Bool) (old : Option Loc) (c : Chk) (st1 : St) : St :=
  let st3 := labMerge env l asCtx old c st1
  if asCtx then { st3 with errs := ctxSecondary env l c.pos c.errCount st3.errs } else st3

theorem labMerge_reshelter {env : Env} (hk : env.ek ≠ .empty) (l : Nat) (asCtx : Bool) (old : Option Loc) (c : Chk)
    (st1 : St) : Reshelter old st1 (labMerge env l asCtx old c st1) := by
  unfold labMerge
  cases hn : st1.alt with
  | none => exact ⟨rfl, rfl, rfl, fun _ => rfl, by rw [hn]; exact (comb_none_right _).symm⟩
  | some n => exact readdAlt_reshelter hk old st1 _ (hn ▸ congrArg (fun sp => some (n.pos, sp)) (labErr_span ..))

theorem labFinish_reshelter {env : Env} (hk : env.ek ≠ .empty) (l : Nat) (asCtx : Bool) (old : Option Loc) (c : Chk)
    (st1 : St) : Reshelter old st1 (labFinish env l asCtx old c st1) := by
  have h3 := labMerge_reshelter hk l asCtx old c st1
  unfold labFinish
  cases asCtx with
  | false => exact h3
  | true => exact ⟨h3.pos, h3.insp, h3.ctx, fun s => (ctxSecondary_shs ..).trans (h3.errs s), h3.alt⟩

variable {R1 R2 : Runner} {N1 N2 : NextRunner} {K1 K2 : MkRunner}

theorem choiceTuple_sim (hR : SimR s b dr env1 env2 R1 R2) (m : Mode) {c1 c2 : Chk} (hc : c1 = c2) (u : Bool)
    (ho : s = true → u = false → o = none) : ∀ (gs : List G) {st1 st2 : St}, Rel o s st1 st2 →
    admL s b dr u gs = true → (gs ≠ [] ∨ (st1.alt.isSome = true ∧ st2.alt.isSome = true)) →
    OutRel o s (choiceTuple R1 env1 m c1 gs st1) (choiceTuple R2 env2 m c2 (eraseL b gs) st2)
  | [], _, _, hs, _, hne => .fail hs (hne.resolve_left (· rfl))
  | g :: gs, _, _, hs, hg, _ => by
    unfold_runs
    exact (hR o u m g _ _ hs (band_elim hg).1 ho).elim (fun v hr => .ok v hr)
      (fun hr hp => choiceTuple_sim hR m hc u ho gs (hr.rewindEq hc) (band_elim hg).2 (.inr hp)) .panic .oof

theorem choiceSlice_sim (hR : SimR s b dr env1 env2 R1 R2) (m : Mode) {c1 c2 : Chk} (hc : c1 = c2) (u : Bool)
    (ho : s = true → u = false → o = none) : ∀ (gs : List G) {st1 st2 : St}, Rel o s st1 st2 →
    admL s b dr u gs = true → (gs ≠ [] ∨ (st1.alt.isSome = true ∧ st2.alt.isSome = true)) →
    OutRel o s (choiceSlice R1 env1 m c1 gs st1) (choiceSlice R2 env2 m c2 (eraseL b gs) st2)
  | [], _, _, hs, _, hne => .fail hs (hne.resolve_left (· rfl))
  | g :: gs, _, _, hs, hg, _ => by
    unfold_runs
    exact (hR o u m g _ _ (hs.rewindEq hc) (band_elim hg).1 ho).elim (fun v hr => .ok v hr)
      (fun hr hp => choiceSlice_sim hR m hc u ho gs hr (band_elim hg).2 (.inr hp)) .panic .oof

theorem groupLoop_sim (hR : SimR s b dr env1 env2 R1 R2) (m : Mode) (u : Bool)
    (ho : s = true → u = false → o = none) : ∀ (gs : List G) {st1 st2 : St} (acc : List Val), Rel o s st1 st2 →
    admL s b dr u gs = true →
    OutRel o s (groupLoop R1 env1 m gs st1 acc) (groupLoop R2 env2 m (eraseL b gs) st2 acc)
  | [], _, _, _, hs, _ => .ok _ hs
  | g :: gs, _, _, acc, hs, hg => by
    unfold_runs
    exact (hR o u m g _ _ hs (band_elim hg).1 ho).elim
      (fun v hr => groupLoop_sim hR m u ho gs (v :: acc) hr (band_elim hg).2) .fail .panic .oof

/-- the no-progress assertion of the loops fires in both runs or in neither -/
theorem Rel.pos_beq {o' : Option Sh} {a c st1 st2 : St} (hr : Rel o' s a c) (hs : Rel o s st1 st2) :
    (a.pos == st1.pos) = (c.pos == st2.pos) := by rw [hr.pos, hs.pos]

theorem collectLoop_sim (hN : SimN s b dr env1 env2 N1 N2) (m : Mode) (it : It) (k : CollKind) (u : Bool)
    (hi : it.adm s b dr u = true) (ho : s = true → u = false → o = none) :
    ∀ (fuel : Nat) {st1 st2 : St} (ist : ItSt) (acc : List Val) (i : Nat), Rel o s st1 st2 →
    OutRel o s (collectLoop N1 env1 m it k fuel st1 ist acc i) (collectLoop N2 env2 m (it.erase b) k fuel st2 ist acc i)
  | 0, _, _, _, _, _, _ => .oof
  | fuel + 1, _, _, ist, acc, i, hs => by
    unfold_runs
    exact (hN o u m it _ _ ist hs hi ho).elim
      (fun v ist' hr => rel_ite (by rw [It.nonconsOk_erase, hr.pos_beq hs]) (.panic _)
        (collectLoop_sim hN m it k u hi ho fuel ist' (v :: acc) (i + 1) hr))
      (fun _ hr => .ok _ hr) .fail .panic .oof

theorem collectExactlyLoop_sim (he : EnvRel s b dr env1 env2) (hN : SimN s b dr env1 env2 N1 N2) (m : Mode) (it : It) (u : Bool)
    (hi : it.adm s b dr u = true) (ho : s = true → u = false → o = none) :
    ∀ (n : Nat) {st1 st2 : St} (ist : ItSt) (acc : List Val), Rel o s st1 st2 →
    OutRel o s (collectExactlyLoop N1 env1 m it n st1 ist acc) (collectExactlyLoop N2 env2 m (it.erase b) n st2 ist acc)
  | 0, _, _, _, _, hs => .ok _ hs
  | n + 1, _, _, ist, acc, hs => by
    unfold_runs
    exact (hN o u m it _ _ ist hs hi ho).elim
      (fun v ist' hr => collectExactlyLoop_sim he hN m it u hi ho n ist' (v :: acc) hr)
      (fun _ hr => .failAddAlt he hr _ (peek_eq he hr) (he.span hr hr)) .fail .panic .oof

theorem foldlLoop_sim (hN : SimN s b dr env1 env2 N1 N2) (m : Mode) (it : It) (u : Bool)
    (hi : it.adm s b dr u = true) (ho : s = true → u = false → o = none) (f1 f2 : Val → Val → St → Val)
    (hf : ∀ {a c} acc x, Rel o s a c → f1 acc x a = f2 acc x c) :
    ∀ (fuel : Nat) {st1 st2 : St} (ist : ItSt) (acc : Val), Rel o s st1 st2 →
    OutRel o s (foldlLoop N1 env1 m it f1 fuel st1 ist acc) (foldlLoop N2 env2 m (it.erase b) f2 fuel st2 ist acc)
  | 0, _, _, _, _, _ => .oof
  | fuel + 1, _, _, ist, acc, hs => by
    unfold_runs
    exact (hN o u m it _ _ ist hs hi ho).elim
      (fun v ist' hr => rel_ite (by rw [It.nonconsOk_erase, hr.pos_beq hs]) (.panic _)
        (hf acc v hr ▸ foldlLoop_sim hN m it u hi ho f1 f2 hf fuel ist' _ hr))
      (fun _ hr => .ok _ hr) .fail .panic .oof

/-- related results of the collecting phase of `foldr`: the items and related states, or related outcomes -/
inductive FcRel (o : Option Sh) (s : Bool) :
    (Option (List (Val × Nat) × St)) ⊕ Out → (Option (List (Val × Nat) × St)) ⊕ Out → Prop
  | items (xs : List (Val × Nat)) {a b : St} : Rel o s a b → FcRel o s (.inl (some (xs, a))) (.inl (some (xs, b)))
  | out {x y : Out} : OutRel o s x y → FcRel o s (.inr x) (.inr y)

@[elab_as_elim] theorem FcRel.elim {P : (Option (List (Val × Nat) × St)) ⊕ Out → (Option (List (Val × Nat) × St)) ⊕ Out → Prop}
    {x y} (h : FcRel o s x y) (items : ∀ {a c} xs, Rel o s a c → P (.inl (some (xs, a))) (.inl (some (xs, c))))
    (out : ∀ {x y}, OutRel o s x y → P (.inr x) (.inr y)) : P x y := by
  cases h with
  | items xs h => exact items xs h
  | out h => exact out h

theorem foldrCollect_sim (hN : SimN s b dr env1 env2 N1 N2) (m : Mode) (it : It) (u : Bool)
    (hi : it.adm s b dr u = true) (ho : s = true → u = false → o = none) :
    ∀ (fuel : Nat) {st1 st2 : St} (ist : ItSt) (acc : List (Val × Nat)), Rel o s st1 st2 →
    FcRel o s (foldrCollect N1 env1 m it fuel st1 ist acc) (foldrCollect N2 env2 m (it.erase b) fuel st2 ist acc)
  | 0, _, _, _, _, _ => .out .oof
  | fuel + 1, _, _, ist, acc, hs => by
    unfold_runs
    exact (hN o u m it _ _ ist hs hi ho).elim
      (fun v ist' hr => rel_ite (by rw [It.nonconsOk_erase, hr.pos_beq hs]) (.out (.panic _))
        (hs.pos ▸ foldrCollect_sim hN m it u hi ho fuel ist' _ hr))
      (fun _ hr => .items _ hr) (fun hr hp => .out (.fail hr hp)) (fun w => .out (.panic w)) (.out .oof)

theorem repeatFast_sim (hR : SimR s b dr env1 env2 R1 R2) (a : G) (u : Bool)
    (hg : a.adm s b dr u = true) (ho : s = true → u = false → o = none) :
    ∀ (fuel : Nat) {st1 st2 : St}, Rel o s st1 st2 →
    OutRel o s (repeatFast R1 env1 a fuel st1) (repeatFast R2 env2 (a.erase b) fuel st2)
  | 0, _, _, _ => .oof
  | fuel + 1, _, _, hs => by
    unfold_runs
    exact (hR o u .check a _ _ hs hg ho).elim
      (fun _ hr => rel_ite (by rw [hr.pos_beq hs]) (.panic _) (repeatFast_sim hR a u hg ho fuel hr))
      (fun hr _ => .ok _ (hr.rewindEq hs.save)) .panic .oof

theorem iterLoop_sim (hN : SimN s b dr env1 env2 N1 N2) (it : It) (ap : Bool) (u : Bool)
    (hi : it.adm s b dr u = true) (ho : s = true → u = false → o = none) :
    ∀ (fuel : Nat) {st1 st2 : St} (ist : ItSt), Rel o s st1 st2 →
    OutRel o s (iterLoop N1 env1 it ap fuel st1 ist) (iterLoop N2 env2 (it.erase b) ap fuel st2 ist)
  | 0, _, _, _, _ => .oof
  | fuel + 1, _, _, ist, hs => by
    unfold_runs
    exact (hN o u .check it _ _ ist hs hi ho).elim
      (fun _ ist' hr => rel_ite (by rw [hr.pos_beq hs]) (.panic _) (iterLoop_sim hN it ap u hi ho fuel ist' hr))
      (fun _ hr => .ok _ hr) .fail .panic .oof

theorem Rel.takenShs {a c : St} (h : Rel o s a c) (hos : s = true → o = none) {x1 x2 : Loc}
    (h1 : a.alt = some x1) (h2 : c.alt = some x2) (p : Nat) : Loc.shs s ⟨p, x1.err⟩ = Loc.shs s ⟨p, x2.err⟩ := by
  cases s with
  | false => rfl
  | true =>
    have := (h.alt rfl).eq
    rw [h1, h2, hos rfl] at this
    simp only [Option.map_some, comb_none_left, Option.some.injEq, Loc.sh, Prod.mk.injEq] at this
    simp [Loc.shs, this.2]

theorem Rel.takenAlt {a c : St} (h : Rel o s a c) {x1 x2 : Loc}
    (h1 : a.alt = some x1) (h2 : c.alt = some x2) : s = true → altRel o (some x1) (some x2) := by
  intro hs
  have := h.alt hs
  rwa [h1, h2] at this

/-- both runs failed, so both hold a pending error (`OutRel.fail`), which the `unwrap()` of a recovery strategy or of
    `map_err` takes out -/
theorem taken_sim {a1 c1 : St} (hp : a1.alt.isSome = true ∧ c1.alt.isSome = true) {w : Nat} {rec1 rec2 : Loc → Out}
    (hrec : ∀ x1 x2, a1.alt = some x1 → c1.alt = some x2 → OutRel o s (rec1 x1) (rec2 x2)) :
    OutRel o s (match a1.alt with | none => .panic w | some x => rec1 x)
      (match c1.alt with | none => .panic w | some x => rec2 x) := by
  obtain ⟨x1, h1⟩ := Option.isSome_iff_exists.mp hp.1
  obtain ⟨x2, h2⟩ := Option.isSome_iff_exists.mp hp.2
  rw [h1, h2]
  exact hrec x1 x2 h1 h2

theorem recover_sim {a1 c1 : St} (hr : Rel o s a1 c1) (hp : a1.alt.isSome = true ∧ c1.alt.isSome = true)
    (hos : s = true → o = none) {rec1 rec2 : Loc → Out}
    (hrec : ∀ x1 x2 : Loc, (s = true → altRel o (some x1) (some x2)) →
      (∀ p, Loc.shs s ⟨p, x1.err⟩ = Loc.shs s ⟨p, x2.err⟩) → OutRel o s (rec1 x1) (rec2 x2)) :
    OutRel o s (match a1.alt with | none => .panic pUnwrapRecovery | some x => rec1 x)
      (match c1.alt with | none => .panic pUnwrapRecovery | some x => rec2 x) :=
  taken_sim hp fun x1 x2 h1 h2 => hrec x1 x2 (hr.takenAlt h1 h2) (hr.takenShs hos h1 h2)

/-- where a recovery strategy is admissible, no pending error is sheltered -/
theorem recover_unsheltered {u : Bool} (ho : s = true → u = false → o = none) (hu : (!s || !u) = true) :
    s = true → o = none :=
  fun h => ho h (by cases u <;> first | rfl | (subst h; cases hu))

theorem Rel.emitTaken {a c : St} (h : Rel none s a c) (hos : s = true → o = none) {x1 x2 : Err}
    (hx : ∀ p, Loc.shs s ⟨p, x1⟩ = Loc.shs s ⟨p, x2⟩) : Rel o s (a.emit a.pos x1) (c.emit c.pos x2) :=
  h.pos ▸ (h.changeO (fun hs => (hos hs).symm)).emit a.pos (hx _)

theorem skipUntilLoop_sim (hR : SimR s b dr env1 env2 R1 R2) (m : Mode) (skip until_ : G) (fb : Val) (x1 x2 : Loc)
    (u : Bool) (hsk : skip.adm s b dr u = true) (hun : until_.adm s b dr u = true)
    (hos : s = true → o = none) (hx : s = true → altRel o (some x1) (some x2))
    (hsp : ∀ p, Loc.shs s ⟨p, x1.err⟩ = Loc.shs s ⟨p, x2.err⟩) :
    ∀ (fuel : Nat) {st1 st2 : St}, Rel none s st1 st2 →
    OutRel o s (skipUntilLoop R1 env1 m skip until_ fb x1 fuel st1)
      (skipUntilLoop R2 env2 m (skip.erase b) (until_.erase b) fb x2 fuel st2)
  | 0, _, _, _ => .oof
  | fuel + 1, _, _, hs => by
    unfold_runs
    refine (hR none u .check until_ _ _ hs hun (fun _ _ => rfl)).elim (fun _ hr => .ok _ (hr.emitTaken hos hsp))
      (fun hr _ => ?_) .panic .oof
    unfold_runs
    exact (hR none u .check skip _ _ (hr.rewindEq hs.save) hsk (fun _ _ => rfl)).elim
      (fun _ hr3 => skipUntilLoop_sim hR m skip until_ fb x1 x2 u hsk hun hos hx hsp fuel hr3)
      (fun hr3 _ => .fail (hr3.setAlt hx) ⟨rfl, rfl⟩) .panic .oof

theorem skipRetryLoop_sim (hR : SimR s b dr env1 env2 R1 R2) (m : Mode) (a skip until_ : G) (x1 x2 : Loc)
    (u : Bool) (ha : a.adm s b dr u = true) (hsk : skip.adm s b dr u = true) (hun : until_.adm s b dr u = true)
    (hos : s = true → o = none) (hx : s = true → altRel o (some x1) (some x2))
    (hsp : ∀ p, Loc.shs s ⟨p, x1.err⟩ = Loc.shs s ⟨p, x2.err⟩) :
    ∀ (fuel : Nat) {st1 st2 : St}, Rel none s st1 st2 →
    OutRel o s (skipRetryLoop R1 env1 m a skip until_ x1 fuel st1)
      (skipRetryLoop R2 env2 m (a.erase b) (skip.erase b) (until_.erase b) x2 fuel st2)
  | 0, _, _, _ => .oof
  | fuel + 1, _, _, hs => by
    have again {a4 c4 a3 c3 : St} (hr4 : Rel none s a4 c4) (hr3 : Rel none s a3 c3) :=
      skipRetryLoop_sim hR m a skip until_ x1 x2 u ha hsk hun hos hx hsp fuel (hr4.altNone.rewindEq hr3.save)
    unfold_runs
    refine (hR none u .check until_ _ _ hs hun (fun _ _ => rfl)).elim
      (fun _ hr => .fail ((hr.setAlt hx).rewindEq hs.save) ⟨rfl, rfl⟩) (fun hr _ => ?_) .panic .oof
    unfold_runs
    refine (hR none u .check skip _ _ (hr.rewindEq hs.save) hsk (fun _ _ => rfl)).elim (fun _ hr3 => ?_)
      (fun hr3 _ => .fail (hr3.setAlt hx) ⟨rfl, rfl⟩) .panic .oof
    unfold_runs
    exact (hR none u m a _ _ hr3 ha (fun _ _ => rfl)).elim
      (fun _ hr4 => rel_ite (by rw [hr4.errs.length, hr3.save]) (.ok _ (hr4.emitTaken hos hsp)) (again hr4 hr3))
      (fun hr4 _ => again hr4 hr3) .panic .oof

theorem step_sim (he : EnvRel s b dr env1 env2) (hR : SimR s b dr env1 env2 R1 R2) (hN : SimN s b dr env1 env2 N1 N2)
    (hK : SimK s b dr env1 env2 K1 K2) (L : Nat) : SimR s b dr env1 env2 (step R1 N1 K1 L) (step R2 N2 K2 L) := by
  intro o u m g st1 st2 hs hg ho
  cases g with
  | end_ =>
    have hn := next_snd he hs
    show OutRel o s (step R1 N1 K1 L env1 m .end_ st1) (step R2 N2 K2 L env2 m .end_ st2)
    simp only [step_end, next_fst he hs]
    cases (St.next env1 st1).1 with
    | none => exact .ok _ hn
    | some t => exact .failAddAlt he (hn.rewindEq hs.save) _ rfl (he.span hs hn)
  | empty => exact .ok _ hs
  | any | oneOf ts | noneOf ts | select ts => exact tokenPrim_sim he hs _ _ _
  | just ts => exact justStep_sim he _ ts hs
  | custom f => exact runCustom_sim he hs _ _
  | todo => exact .panic _
  | then_ a c | ignoreThen a c | thenIgnore a c =>
    have ⟨ha, hc⟩ := band_elim hg
    exact (hR o u _ a _ _ hs ha ho).andThen fun _ hr => (hR o u _ c _ _ hr hc ho).andThen fun _ hr2 => .ok _ hr2
  | delimitedBy a l r =>
    have ⟨hal, hr'⟩ := band_elim hg
    have ⟨ha, hl⟩ := band_elim hal
    exact (hR o u _ l _ _ hs hl ho).andThen fun _ hr1 => (hR o u _ a _ _ hr1 ha ho).andThen fun _ hr2 =>
      (hR o u _ r _ _ hr2 hr' ho).andThen fun _ hr3 => .ok _ hr3
  | paddedBy a p =>
    have ⟨ha, hp⟩ := band_elim hg
    exact (hR o u _ p _ _ hs hp ho).andThen fun _ hr1 => (hR o u _ a _ _ hr1 ha ho).andThen fun _ hr2 =>
      (hR o u _ p _ _ hr2 hp ho).andThen fun _ hr3 => .ok _ hr3
  | group gs | groupArr gs => exact groupLoop_sim hR m u ho gs [] hs hg
  | or_ a c =>
    have ⟨ha, hc⟩ := band_elim hg
    exact choiceTuple_sim hR m hs.save u ho [a, c] hs (band_intro ha (band_intro hc rfl)) (.inl (List.cons_ne_nil _ _))
  | choice fl gs =>
    cases fl with
    | tuple =>
      match gs with
      | [] => exact .panic _
      | [g] => exact hR o u m g _ _ hs (band_elim hg).1 ho
      | g :: g2 :: gs => exact choiceTuple_sim hR m hs.save u ho _ hs hg (.inl (List.cons_ne_nil _ _))
    | slice =>
      match gs with
      | [] => exact .failAddAlt he hs _ rfl (he.span hs hs)
      | g :: gs => exact choiceSlice_sim hR m hs.save u ho _ hs hg (.inl (List.cons_ne_nil _ _))
  | orNot a =>
    unfold_runs
    exact (hR o u m a _ _ hs hg ho).elim (fun _ hr => .ok _ hr) (fun hr _ => .ok _ (hr.rewindEq hs.save)) .panic .oof
  | not_ a =>
    unfold_runs
    refine (hR none u .check a _ _ hs.altNone hg (fun _ _ => rfl)).elim (fun _ hr => ?_)
      (fun hr _ => .ok _ ((hr.rewindEq hs.save).setAlt hs.alt)) .panic .oof
    have h2 := (hr.rewindEq hs.save).setAlt hs.alt
    exact .failAddAlt he (next_snd he h2) _ (next_fst he h2) (he.span hs hr)
  | andIs a c =>
    have ⟨ha, hc⟩ := band_elim hg
    unfold_runs
    refine (hR o u m a _ _ hs ha ho).elim (fun _ hr => ?_) (fun hr hp => .fail (hr.rewindEq hs.save) hp) .panic .oof
    unfold_runs
    exact (hR o u .check c _ _ (hr.rewindInputEq hs.save) hc ho).elim (fun _ hr2 => .ok _ (hr2.rewindInputEq hr.save))
      .fail .panic .oof
  | rewind a =>
    unfold_runs
    exact (hR o u m a _ _ hs hg ho).elim (fun _ hr => .ok _ (hr.rewindInputEq hs.save)) .fail .panic .oof
  | map f a | to v a | ignored a => exact (hR o u _ a _ _ hs hg ho).andThen fun _ hr => .ok _ hr
  | filter p a =>
    exact (hR o u .emit a _ _ hs hg ho).andThen fun _ hr => rel_ite Iff.rfl (.ok _ hr)
      (.failAddAlt he (hr.rewindEq hs.save) _ (peek_eq he (hr.rewindEq hs.save)) (he.span hs hr))
  | tryMap f a =>
    unfold_runs
    refine (hR none u .emit a _ _ hs.altNone hg (fun _ _ => rfl)).elim (fun _ hr => ?_)
      (fun hr hp => .failReshelter hr hp (readdAlt_reshelter he.ek1 _ _ _ rfl) (readdAlt_reshelter he.ek2 _ _ _ rfl) hs.alt)
      .panic .oof
    exact rel_ite Iff.rfl (.failUser he (hr.setAltLog hs.alt _ _) hs.pos.symm (he.span hs hr) _)
      (.ok _ (hr.reshelter (readdAlt_reshelter he.ek1 _ _ _ rfl) (readdAlt_reshelter he.ek2 _ _ _ rfl) hs.alt))
  | tryMapWith f a =>
    exact (hR o u .emit a _ _ hs hg ho).andThen fun _ hr =>
      rel_ite Iff.rfl (.failUser he hr hr.pos.symm (he.span hs hr) _) (.ok _ hr)
  | toSpan a | mapWithSpan a =>
    exact (hR o u m a _ _ hs hg ho).andThen fun _ hr => .ok_eq (by rw [he.span hs hr]) hr
  | toSlice a =>
    exact (hR o u .check a _ _ hs hg ho).andThen fun _ hr => .ok_eq (by rw [he.off, he.off, hs.pos, hr.pos]) hr
  | mapWithState a => exact (hR o u m a _ _ hs hg ho).andThen fun _ hr => .ok_eq (by rw [hr.insp]) hr
  | mapWithCtx a => exact (hR o u m a _ _ hs hg ho).andThen fun _ hr => .ok_eq (by rw [hr.ctx]) hr
  | validate f a =>
    refine (hR o u .emit a _ _ hs hg ho).andThen fun v hr => .ok _ ?_
    refine rel_ite (P := Rel o s) Iff.rfl (hr.setErrs (hr.errs.append (errRel.replicate ?_ _))) hr
    simp only [Loc.shs, hs.pos, he.span hs hr, ErrKind.userErr_span he.ek1, ErrKind.userErr_span he.ek2]
  | collect k it =>
    unfold_runs
    exact (hK o u m it _ _ hs hg ho).elim (fun ist hr => collectLoop_sim hN m it k u hg ho L ist [] 0 hr) .fail .panic .oof
  | collectExactly n it =>
    unfold_runs
    exact (hK o u m it _ _ hs hg ho).elim (fun ist hr => collectExactlyLoop_sim he hN m it u hg ho n ist [] hr)
      .fail .panic .oof
  | foldl f a it =>
    have ⟨ha, hi⟩ := band_elim hg
    refine (hR o u m a _ _ hs ha ho).andThen fun va hr => ?_
    exact (hK o u m it _ _ hr hi ho).elim
      (fun ist hr2 => foldlLoop_sim hN m it u hi ho (fun acc x _ => f.evalL acc x) (fun acc x _ => f.evalL acc x)
        (fun _ _ _ => rfl) L ist va hr2) .fail .panic .oof
  | foldlWith a it =>
    have ⟨ha, hi⟩ := band_elim hg
    refine (hR o u m a _ _ hs ha ho).andThen fun va hr => ?_
    exact (hK o u m it _ _ hr hi ho).elim
      (fun ist hr2 => foldlLoop_sim hN m it u hi ho _ _ (fun _ _ h => by rw [he.span hs h]) L ist va hr2) .fail .panic .oof
  | foldr f it c =>
    have ⟨hi, hc⟩ := band_elim hg
    unfold_runs
    refine (hK o u m it _ _ hs hi ho).elim (fun ist hr => ?_) .fail .panic .oof
    unfold_runs
    exact (foldrCollect_sim hN m it u hi ho L ist [] hr).elim
      (fun _ hr2 => (hR o u m c _ _ hr2 hc ho).andThen fun _ hr3 => .ok _ hr3) id
  | foldrWith it c =>
    have ⟨hi, hc⟩ := band_elim hg
    unfold_runs
    refine (hK o u m it _ _ hs hi ho).elim (fun ist hr => ?_) .fail .panic .oof
    unfold_runs
    exact (foldrCollect_sim hN m it u hi ho L ist [] hr).elim
      (fun _ hr2 => (hR o u m c _ _ hr2 hc ho).andThen fun _ hr3 => .ok_eq (by rw [he.mkSpan_eq, hr3.pos]) hr3) id
  | iterP it =>
    cases it with
    | repeated a lo hi =>
      match lo, hi with
      | 0, none => exact repeatFast_sim hR a u hg ho L hs
      | 0, some _ | _ + 1, _ =>
        unfold_runs
        exact (hK o u .check _ _ _ hs hg ho).elim (fun ist hr => iterLoop_sim hN _ true u hg ho L ist hr) .fail .panic .oof
    | separatedBy a sep lo hi lead trail =>
      unfold_runs
      exact (hK o u .check _ _ _ hs hg ho).elim (fun ist hr => iterLoop_sim hN _ true u hg ho L ist hr) .fail .panic .oof
    | configureRep c inner | tryConfigureRep c inner =>
      unfold_runs
      exact (hK o u .check _ _ _ hs hg ho).elim (fun ist hr => iterLoop_sim hN _ false u hg ho L ist hr) .fail .panic .oof
    | intoIter a => exact (hR o u .check a _ _ hs hg ho).andThen fun _ hr => .ok _ hr
    | enumerate _ | orNotIt _ | thenIt _ _ | mapIt _ _ => exact .panic _
  | recoverVia a r =>
    have ⟨hga, hr'⟩ := band_elim hg
    have ⟨hu, ha⟩ := band_elim hga
    have hos := recover_unsheltered ho hu
    unfold_runs
    refine (hR o u m a _ _ hs ha ho).elim (fun _ hr => .ok _ hr) (fun hr hp => ?_) .panic .oof
    refine recover_sim hr hp hos fun x1 x2 hx hsp => ?_
    exact (hR none u m r _ _ (hr.rewindEq hs.save).altNone hr' (fun _ _ => rfl)).elim
      (fun _ hr3 => .ok _ (hr3.emitTaken hos hsp)) (fun hr3 _ => .fail ((hr3.setAlt hx).rewindEq hs.save) ⟨rfl, rfl⟩)
      .panic .oof
  | recoverSkipUntil a skip until_ fb =>
    have ⟨hga, hun⟩ := band_elim hg
    have ⟨hgb, hsk⟩ := band_elim hga
    have ⟨hu, ha⟩ := band_elim hgb
    have hos := recover_unsheltered ho hu
    unfold_runs
    refine (hR o u m a _ _ hs ha ho).elim (fun _ hr => .ok _ hr) (fun hr hp => ?_) .panic .oof
    refine recover_sim hr hp hos fun x1 x2 hx hsp => ?_
    exact (skipUntilLoop_sim hR m skip until_ fb x1 x2 u hsk hun hos hx hsp L (hr.rewindEq hs.save).altNone).elim
      (fun _ hr3 => .ok _ hr3) (fun hr3 hp3 => .fail (hr3.rewindEq hs.save) hp3) .panic .oof
  | recoverSkipRetry a skip until_ =>
    have ⟨hga, hun⟩ := band_elim hg
    have ⟨hgb, hsk⟩ := band_elim hga
    have ⟨hu, ha⟩ := band_elim hgb
    have hos := recover_unsheltered ho hu
    unfold_runs
    refine (hR o u m a _ _ hs ha ho).elim (fun _ hr => .ok _ hr) (fun hr hp => ?_) .panic .oof
    refine recover_sim hr hp hos fun x1 x2 hx hsp => ?_
    exact (skipRetryLoop_sim hR m a skip until_ x1 x2 u ha hsk hun hos hx hsp L (hr.rewindEq hs.save).altNone).elim
      (fun _ hr3 => .ok _ hr3) (fun hr3 hp3 => .fail (hr3.rewindEq hs.save) hp3) .panic .oof
  | labelled l asCtx a =>
    have hg : a.adm s b dr (u || b) = true := hg
    cases b with
    | false =>
      rw [Bool.or_false] at hg
      unfold_runs
      have h1 := labFinish_reshelter he.ek1 l asCtx st1.alt st1.save
      have h2 := labFinish_reshelter he.ek2 l asCtx st2.alt st2.save
      exact (hR none u m a _ _ hs.altNone hg (fun _ _ => rfl)).elim
        (fun _ hr => .ok _ (hr.reshelter (h1 _) (h2 _) hs.alt)) (fun hr hp => .failReshelter hr hp (h1 _) (h2 _) hs.alt)
        .panic .oof
    | true =>
      rw [Bool.or_true] at hg
      unfold_runs
      have h1 := labFinish_reshelter he.ek1 l asCtx st1.alt st1.save
      exact (hR _ true m a _ _ hs.altNoneLeft hg (fun _ h => by cases h)).elim
        (fun _ hr => .ok _ (hr.reshelterLeft (h1 _))) (fun hr hp => .failReshelterLeft hr hp (h1 _)) .panic .oof
  | mapErr k a =>
    have hlab (env : Env) (x : Loc) : Option.map Loc.sh (some ⟨x.pos, env.ek.labelWith x.err k⟩) = Option.map Loc.sh (some x) := by
      simp [Loc.sh]
    have hg : a.adm s b dr (u || b) = true := hg
    cases b with
    | false =>
      rw [Bool.or_false] at hg
      unfold_runs
      refine (hR none u m a _ _ hs.altNone hg (fun _ _ => rfl)).elim
        (fun _ hr => .ok _ (hr.reshelter (readdAlt_reshelter he.ek1 _ _ _ rfl) (readdAlt_reshelter he.ek2 _ _ _ rfl) hs.alt))
        (fun hr hp => ?_) .panic .oof
      exact taken_sim hp fun x1 x2 h1 h2 => .failReshelter hr hp
        (readdAlt_reshelter he.ek1 _ _ _ (h1 ▸ hlab env1 x1)) (readdAlt_reshelter he.ek2 _ _ _ (h2 ▸ hlab env2 x2)) hs.alt
    | true =>
      rw [Bool.or_true] at hg
      unfold_runs
      refine (hR _ true m a _ _ hs.altNoneLeft hg (fun _ h => by cases h)).elim
        (fun _ hr => .ok _ (hr.reshelterLeft (readdAlt_reshelter he.ek1 _ _ _ rfl))) (fun hr hp => ?_) .panic .oof
      obtain ⟨x1, h1⟩ := Option.isSome_iff_exists.mp hp.1
      unfold_runs
      rw [h1]
      exact .failReshelterLeft hr hp (readdAlt_reshelter he.ek1 _ _ _ (h1 ▸ hlab env1 x1))
  | withCtx cv a => exact (hR o u m a _ _ (hs.setCtx cv) hg ho).restoreCtx hs.ctx
  | ignoreWithCtx a c =>
    have ⟨ha, hc⟩ := band_elim hg
    exact (hR o u .emit a _ _ hs ha ho).andThen fun va hr => (hR o u m c _ _ (hr.setCtx va) hc ho).restoreCtx hs.ctx
  | thenWithCtx a c =>
    have ⟨ha, hc⟩ := band_elim hg
    exact (hR o u .emit a _ _ hs ha ho).andThen fun va hr =>
      ((hR o u m c _ _ (hr.setCtx va) hc ho).restoreCtx hs.ctx).andThen fun _ hr2 => .ok _ hr2
  | mapCtx f a => exact (hR o u m a _ _ (hs.ctx ▸ hs.setCtx (f.eval st1.ctx)) hg ho).restoreCtx hs.ctx
  | configureJust c ts =>
    show OutRel o s (step R1 N1 K1 L env1 m (.configureJust c ts) st1) (step R2 N2 K2 L env2 m (.configureJust c ts) st2)
    simp only [step_configureJust, ← hs.ctx]
    exact justStep_sim he _ _ hs
  | withState a => exact (hR o u m a _ _ (hs.setInsp []) hg ho).restoreInsp hs.insp
  | memoized id a =>
    show OutRel o s (step R1 N1 K1 L env1 m (.memoized id a) st1) (step R2 N2 K2 L env2 m (.memoized id (a.erase b)) st2)
    simp only [step_memoized, he.m1, he.m2, Bool.not_false, if_true]
    exact hR o u m a st1 st2 hs hg ho
  | call k =>
    have hg : (!s || !u || dr) = true := hg
    show OutRel o s (step R1 N1 K1 L env1 m (.call k) st1) (step R2 N2 K2 L env2 m (.call k) st2)
    simp only [step_call, he.defs, List.getElem?_map]
    cases hd : env1.defs[k]? with
    | none => exact .panic _
    | some d => exact hR o u m d st1 st2 hs (he.adm k d u hd (by cases s <;> cases u <;> cases dr <;> simp at hg ⊢)) ho
  | boxed a => exact hR o u m a st1 st2 hs hg ho

theorem stepMk_sim (he : EnvRel s b dr env1 env2) (hR : SimR s b dr env1 env2 R1 R2)
    (hK : SimK s b dr env1 env2 K1 K2) : SimK s b dr env1 env2 (stepMk R1 K1) (stepMk R2 K2) := by
  intro o u m it st1 st2 hs hg ho
  cases it with
  | repeated a lo hi | separatedBy a sep lo hi lead trail | orNotIt a => exact .ok _ hs
  | enumerate inner =>
    unfold_runs
    exact (hK o u m inner _ _ hs hg ho).elim (fun _ hr => .ok _ hr) .fail .panic .oof
  | configureRep c inner =>
    unfold_runs
    refine (hK o u m inner _ _ hs hg ho).elim (fun _ hr => ?_) .fail .panic .oof
    unfold_runs
    rw [hr.ctx]
    exact .ok _ hr
  | thenIt x y =>
    unfold_runs
    exact (hK o u m x _ _ hs (band_elim hg).1 ho).elim (fun _ hr => .ok _ hr) .fail .panic .oof
  | intoIter a =>
    unfold_runs
    exact (hR o u .emit a _ _ hs hg ho).elim (fun _ hr => .ok _ hr) .fail .panic .oof
  | mapIt f inner => exact hK o u m inner st1 st2 hs hg ho
  | tryConfigureRep c inner =>
    show MkRel o s (stepMk R1 K1 env1 m (.tryConfigureRep c inner) st1) (stepMk R2 K2 env2 m (.tryConfigureRep c (inner.erase b)) st2)
    simp only [stepMk, ← hs.ctx]
    cases st1.ctx.asNat? with
    | none =>
      cases OutRel.failUser he hs hs.pos.symm (he.span hs hs) c.msg with
      | fail h hp => exact .fail h hp
    | some n =>
      exact (hK o u m inner _ _ hs hg ho).elim (fun _ hr => .ok _ hr) .fail .panic .oof

theorem repeatedNext_sim (hR : SimR s b dr env1 env2 R1 R2) (u : Bool) (m : Mode) (a : G)
    (hg : a.adm s b dr u = true) (ho : s = true → u = false → o = none) (lo : Nat) (hi : Option Nat)
    {st1 st2 : St} (hs : Rel o s st1 st2) (n : Nat) (wrap : ItSt → ItSt) :
    ItRel o s (repeatedNext R1 env1 m a lo hi st1 n wrap) (repeatedNext R2 env2 m (a.erase b) lo hi st2 n wrap) := by
  refine rel_ite Iff.rfl (.done _ hs) ?_
  unfold_runs
  exact (hR o u m a _ _ hs hg ho).elim (fun _ hr => .some _ _ hr)
    (fun hr hp => rel_ite Iff.rfl (.done _ (hr.rewindEq hs.save)) (.fail (hr.rewindEq hs.save) hp)) .panic .oof

/-- an item of `separated_by` after the separator was tried: `c` is the checkpoint before the separator -/
theorem sepItem_sim (hR : SimR s b dr env1 env2 R1 R2) (u : Bool) (m : Mode) (a : G) (hg : a.adm s b dr u = true)
    (ho : s = true → u = false → o = none) (lo n : Nat) (trail : Bool) {c1 c2 : Chk} (hc : c1 = c2) {st1 st2 : St}
    (hs : Rel o s st1 st2) :
    ItRel o s
      (match R1 env1 m a st1 with
        | .ok v st' => .some v st' (.cnt (n + 1))
        | .fail st' =>
          if n < lo then .fail (st'.rewind c1)
          else if trail then .done (st'.rewind st1.save) (.cnt n)
          else .done (st'.rewind c1) (.cnt n)
        | .panic w => .panic w
        | .oof => .oof)
      (match R2 env2 m (a.erase b) st2 with
        | .ok v st' => .some v st' (.cnt (n + 1))
        | .fail st' =>
          if n < lo then .fail (st'.rewind c2)
          else if trail then .done (st'.rewind st2.save) (.cnt n)
          else .done (st'.rewind c2) (.cnt n)
        | .panic w => .panic w
        | .oof => .oof) :=
  (hR o u m a _ _ hs hg ho).elim (fun _ hr => .some _ _ hr)
    (fun hr hp => rel_ite Iff.rfl (.fail (hr.rewindEq hc) hp)
      (rel_ite Iff.rfl (.done _ (hr.rewindEq hs.save)) (.done _ (hr.rewindEq hc)))) .panic .oof

theorem separatedNext_sim (hR : SimR s b dr env1 env2 R1 R2) (u : Bool) (m : Mode) (a sep : G)
    (hga : a.adm s b dr u = true) (hgs : sep.adm s b dr u = true) (ho : s = true → u = false → o = none)
    (lo : Nat) (hi : Option Nat) (lead trail : Bool) {st1 st2 : St} (hs : Rel o s st1 st2) (n : Nat) :
    ItRel o s (separatedNext R1 env1 m a sep lo hi lead trail st1 n)
      (separatedNext R2 env2 m (a.erase b) (sep.erase b) lo hi lead trail st2 n) := by
  have item {x1 x2 : St} (hx : Rel o s x1 x2) := sepItem_sim hR u m a hga ho lo n trail hs.save hx
  refine rel_ite Iff.rfl (.done _ hs) (rel_ite Iff.rfl ?_ (rel_ite Iff.rfl ?_ (item hs)))
  · exact (hR o u .check sep _ _ hs hgs ho).elim (fun _ hr => item hr) (fun hr _ => item (hr.rewindEq hs.save)) .panic .oof
  · exact (hR o u .check sep _ _ hs hgs ho).elim (fun _ hr => item hr)
      (fun hr hp => rel_ite Iff.rfl (.fail (hr.rewindEq hs.save) hp) (.done _ (hr.rewindEq hs.save))) .panic .oof

theorem stepNext_sim (he : EnvRel s b dr env1 env2) (hR : SimR s b dr env1 env2 R1 R2) (hN : SimN s b dr env1 env2 N1 N2)
    (hK : SimK s b dr env1 env2 K1 K2) : SimN s b dr env1 env2 (stepNext R1 N1 K1) (stepNext R2 N2 K2) := by
  intro o u m it st1 st2 ist hs hg ho
  have next {x1 x2 : St} (hx : Rel o s x1 x2) (it : It) (hi : it.adm s b dr u = true) (ist : ItSt) :=
    hN o u m it x1 x2 ist hx hi ho
  cases it with
  | repeated a lo hi =>
    cases ist with
    | cnt n => exact repeatedNext_sim hR u m a hg ho lo hi hs n id
    | _ => exact .panic _
  | separatedBy a sep lo hi lead trail =>
    cases ist with
    | cnt n => exact separatedNext_sim hR u m a sep (band_elim hg).1 (band_elim hg).2 ho lo hi lead trail hs n
    | _ => exact .panic _
  | enumerate inner =>
    cases ist with
    | enum k si =>
      unfold_runs
      exact (next hs inner hg si).elim (fun _ _ hr => .some _ _ hr) (fun _ hr => .done _ hr) .fail .panic .oof
    | _ => exact .panic _
  | orNotIt a =>
    cases ist with
    | fin fb =>
      refine rel_ite Iff.rfl (.done _ hs) ?_
      unfold_runs
      exact (hR o u m a _ _ hs hg ho).elim (fun _ hr => .some _ _ hr) (fun hr _ => .done _ (hr.rewindEq hs.save))
        .panic .oof
    | _ => exact .panic _
  | intoIter a =>
    cases ist with
    | into vs =>
      cases vs with
      | nil => exact .done _ hs
      | cons v rest => exact .some _ _ hs
    | _ => exact .panic _
  | thenIt x y =>
    have ⟨hx, hy⟩ := band_elim hg
    cases ist with
    | thn sa sb? =>
      cases sb? with
      | some sb =>
        unfold_runs
        exact (next hs y hy sb).elim (fun _ _ hr => .some _ _ hr) (fun _ hr => .done _ hr) .fail .panic .oof
      | none =>
        unfold_runs
        refine (next hs x hx sa).elim (fun _ _ hr => .some _ _ hr) (fun _ hr => ?_) .fail .panic .oof
        unfold_runs
        refine (hK o u m y _ _ hr hy ho).elim (fun sb hr2 => ?_) .fail .panic .oof
        unfold_runs
        exact (next hr2 y hy sb).elim (fun _ _ hr3 => .some _ _ hr3) (fun _ hr3 => .done _ hr3) .fail .panic .oof
    | _ => exact .panic _
  | mapIt f inner =>
    unfold_runs
    exact (next hs inner hg ist).elim (fun _ _ hr => .some _ _ hr) (fun _ hr => .done _ hr) .fail .panic .oof
  | configureRep c inner | tryConfigureRep c inner =>
    cases inner with
    | repeated a lo hi =>
      cases ist with
      | cfg si clo chi =>
        cases si with
        | cnt n =>
          exact repeatedNext_sim hR u m a hg ho (clo.getD lo) (match chi with | some h => some h | none => hi) hs n
            (fun s => .cfg s clo chi)
        | _ => exact .panic _
      | _ => exact .panic _
    | _ => exact .panic _

end

theorem run_sim {s b dr : Bool} {env1 env2 : Env} (he : EnvRel s b dr env1 env2) (n : Nat) :
    SimR s b dr env1 env2 (run n) (run n) ∧ SimN s b dr env1 env2 (next n) (next n) ∧
      SimK s b dr env1 env2 (mkIter n) (mkIter n) := by
  induction n with
  | zero =>
    exact ⟨fun _ _ _ _ _ _ _ _ _ => .oof, fun _ _ _ _ _ _ _ _ _ _ => .oof, fun _ _ _ _ _ _ _ _ _ => .oof⟩
  | succ n ih =>
    exact ⟨step_sim he ih.1 ih.2.1 ih.2.2 n, stepNext_sim he ih.1 ih.2.1 ih.2.2, stepMk_sim he ih.1 ih.2.2⟩

/-- two errors with the same span (descriptions may differ) -/
def Loc.sameShape (a b : Loc) : Prop := a.pos = b.pos ∧ a.err.span = b.err.span

def shapeL : List Loc → List Loc → Prop
  | [], [] => True
  | a :: as, b :: bs => a.sameShape b ∧ shapeL as bs
  | _, _ => False

def shapeO : Option Loc → Option Loc → Prop
  | none, none => True
  | some a, some b => a.sameShape b
  | _, _ => False

/-- states equal up to the descriptions of the errors they hold (memo table and ghost log are not related) -/
structure StSim (a b : St) : Prop where
  pos : a.pos = b.pos
  insp : a.insp = b.insp
  ctx : a.ctx = b.ctx
  errs : shapeL a.errs b.errs
  alt : shapeO a.alt b.alt

inductive OutSim : Out → Out → Prop
  | ok (v : Val) {a b : St} : StSim a b → OutSim (.ok v a) (.ok v b)
  | fail {a b : St} : StSim a b → OutSim (.fail a) (.fail b)
  | panic (w : Nat) : OutSim (.panic w) (.panic w)
  | oof : OutSim .oof .oof

inductive ItSim : ItOut → ItOut → Prop
  | some (v : Val) (ist : ItSt) {a b : St} : StSim a b → ItSim (.some v a ist) (.some v b ist)
  | done (ist : ItSt) {a b : St} : StSim a b → ItSim (.done a ist) (.done b ist)
  | fail {a b : St} : StSim a b → ItSim (.fail a) (.fail b)
  | panic (w : Nat) : ItSim (.panic w) (.panic w)
  | oof : ItSim .oof .oof

inductive MkSim : MkOut → MkOut → Prop
  | ok (ist : ItSt) {a b : St} : StSim a b → MkSim (.ok ist a) (.ok ist b)
  | fail {a b : St} : StSim a b → MkSim (.fail a) (.fail b)
  | panic (w : Nat) : MkSim (.panic w) (.panic w)
  | oof : MkSim .oof .oof

theorem Loc.sameShape_iff (a b : Loc) : a.sameShape b ↔ a.sh = b.sh := by
  simp [Loc.sameShape, Loc.sh]

theorem Loc.shs_true : Loc.shs true = Loc.sh := by
  funext a; simp [Loc.shs, Loc.sh]

theorem shapeL_iff : ∀ (xs ys : List Loc), shapeL xs ys ↔ errRel true xs ys
  | [], [] => by simp [shapeL, errRel]
  | [], _ :: _ => by simp [shapeL, errRel]
  | _ :: _, [] => by simp [shapeL, errRel]
  | a :: as, c :: cs => by
    have ih := shapeL_iff as cs
    simp only [errRel] at ih
    simp [shapeL, errRel, ih, Loc.sameShape_iff, Loc.shs_true]

theorem shapeO_iff (x y : Option Loc) : shapeO x y ↔ altRel none x y := by
  cases x <;> cases y <;> simp [shapeO, altRel, Loc.sameShape_iff, eq_comm]

theorem shapeL.length_eq {xs ys : List Loc} (h : shapeL xs ys) : xs.length = ys.length :=
  ((shapeL_iff xs ys).mp h).length

theorem shapeL.spans_eq {xs ys : List Loc} (h : shapeL xs ys) :
    (xs.map (·.err)).map (·.span) = (ys.map (·.err)).map (·.span) := by
  have h' := (shapeL_iff xs ys).mp h
  have := congrArg (List.map (fun p : Sh => p.2)) h'
  simpa [Loc.shs, List.map_map, Function.comp_def] using this

theorem StSim_iff (a b : St) : StSim a b ↔ Rel none true a b := by
  constructor
  · intro h; exact ⟨h.pos, h.insp, h.ctx, (shapeL_iff _ _).mp h.errs, fun _ => (shapeO_iff _ _).mp h.alt⟩
  · intro h; exact ⟨h.pos, h.insp, h.ctx, (shapeL_iff _ _).mpr h.errs, (shapeO_iff _ _).mpr (h.alt rfl)⟩

theorem OutRel.toSim {x y : Out} (h : OutRel none true x y) : OutSim x y :=
  h.elim (fun v h => .ok v ((StSim_iff _ _).mpr h)) (fun h _ => .fail ((StSim_iff _ _).mpr h)) .panic .oof

theorem ItRel.toSim {x y : ItOut} (h : ItRel none true x y) : ItSim x y :=
  h.elim (fun v ist h => .some v ist ((StSim_iff _ _).mpr h)) (fun ist h => .done ist ((StSim_iff _ _).mpr h))
    (fun h _ => .fail ((StSim_iff _ _).mpr h)) .panic .oof

theorem MkRel.toSim {x y : MkOut} (h : MkRel none true x y) : MkSim x y :=
  h.elim (fun ist h => .ok ist ((StSim_iff _ _).mpr h)) (fun h _ => .fail ((StSim_iff _ _).mpr h)) .panic .oof

theorem OutRel.fail_isSome {o s} {a c : St} (h : OutRel o s (.fail a) (.fail c)) :
    a.alt.isSome = true ∧ c.alt.isSome = true := by
  cases h with
  | fail _ h => exact h

theorem envRel_kind (env : Env) (hm : env.memoOn = false) (k1 k2 : ErrKind) (h1 : k1 ≠ .empty) (h2 : k2 ≠ .empty) :
    EnvRel true false false { env with ek := k1 } { env with ek := k2 } where
  toks := rfl
  kind := rfl
  tspans := rfl
  eoi := rfl
  ek1 := h1
  ek2 := h2
  m1 := hm
  m2 := hm
  defs := by rw [show G.erase false = id from funext G.erase_false, List.map_id]
  adm := by
    intro k d u _ hu
    rcases hu with hu | hu | hu
    · rw [hu]; exact G.adm_kind true false d
    · cases hu
    · cases hu

/-- **C06 (spans).** `Rich`, `Simple` and `Cheap` runs of the same grammar on the same input are in lock-step: same
    values, positions, inspector, context, the same number of secondary errors with the same spans, and pending
    errors at the same position with the same span. -/
theorem run_kindSim (n : Nat) (env : Env) (hm : env.memoOn = false) (k1 k2 : ErrKind) (h1 : k1 ≠ .empty)
    (h2 : k2 ≠ .empty) (m : Mode) (g : G) (st1 st2 : St) (hs : StSim st1 st2) :
    OutSim (run n { env with ek := k1 } m g st1) (run n { env with ek := k2 } m g st2) := by
  have := (run_sim (envRel_kind env hm k1 k2 h1 h2) n).1 none false m g st1 st2 ((StSim_iff _ _).mp hs)
    (G.adm_kind true false g) (fun _ _ => rfl)
  rw [G.erase_false] at this
  exact this.toSim

theorem next_kindSim (n : Nat) (env : Env) (hm : env.memoOn = false) (k1 k2 : ErrKind) (h1 : k1 ≠ .empty)
    (h2 : k2 ≠ .empty) (m : Mode) (it : It) (st1 st2 : St) (ist : ItSt) (hs : StSim st1 st2) :
    ItSim (next n { env with ek := k1 } m it st1 ist) (next n { env with ek := k2 } m it st2 ist) := by
  have := (run_sim (envRel_kind env hm k1 k2 h1 h2) n).2.1 none false m it st1 st2 ist ((StSim_iff _ _).mp hs)
    (It.adm_kind true false it) (fun _ _ => rfl)
  rw [It.erase_false] at this
  exact this.toSim

theorem mkIter_kindSim (n : Nat) (env : Env) (hm : env.memoOn = false) (k1 k2 : ErrKind) (h1 : k1 ≠ .empty)
    (h2 : k2 ≠ .empty) (m : Mode) (it : It) (st1 st2 : St) (hs : StSim st1 st2) :
    MkSim (mkIter n { env with ek := k1 } m it st1) (mkIter n { env with ek := k2 } m it st2) := by
  have := (run_sim (envRel_kind env hm k1 k2 h1 h2) n).2.2 none false m it st1 st2 ((StSim_iff _ _).mp hs)
    (It.adm_kind true false it) (fun _ _ => rfl)
  rw [It.erase_false] at this
  exact this.toSim

theorem StSim.refl_init : StSim St.init St.init :=
  ⟨rfl, rfl, rfl, trivial, trivial⟩

/-- two top-level results that agree up to the descriptions of the errors -/
def TopSim (x y : TopOut) : Prop :=
  (∃ r1 f1 r2 f2, x = .result r1 f1 ∧ y = .result r2 f2 ∧ r1.output = r2.output ∧
      r1.errs.length = r2.errs.length ∧ r1.errs.map (·.span) = r2.errs.map (·.span) ∧ StSim f1 f2) ∨
  (∃ w, x = .panic w ∧ y = .panic w) ∨ (x = .oof ∧ y = .oof)

theorem topSim_of_outSim {env1 env2 : Env} (h1 : env1.ek ≠ .empty) (h2 : env2.ek ≠ .empty)
    (hsp : ∀ i j, env2.mkSpan i j = env1.mkSpan i j) {x y : Out} (h : OutSim x y) :
    TopSim (x.top env1) (y.top env2) := by
  cases h with
  | panic w => exact .inr (.inl ⟨w, rfl, rfl⟩)
  | oof => exact .inr (.inr ⟨rfl, rfl⟩)
  | @ok v a c h =>
    refine .inl ⟨_, a, _, c, rfl, rfl, rfl, ?_, h.errs.spans_eq, h⟩
    simp [h.errs.length_eq]
  | @fail a c h =>
    refine .inl ⟨_, a, _, c, rfl, rfl, rfl, ?_, ?_, h⟩
    · simp [h.errs.length_eq]
    · simp only [List.map_append, h.errs.spans_eq, List.map_cons, List.map_nil]
      congr 2
      have ha := h.alt
      cases h1' : a.alt <;> cases h2' : c.alt <;> rw [h1', h2'] at ha <;> simp only [shapeO] at ha
      · simp only [ErrKind.expectedFound_span h1, ErrKind.expectedFound_span h2, hsp, h.pos]
      · exact ha.2

/-- **C06 (spans), top level.** same output, same number of errors, pointwise the same spans. -/
theorem parseTop_kindSim (n : Nat) (env : Env) (hm : env.memoOn = false) (k1 k2 : ErrKind) (h1 : k1 ≠ .empty)
    (h2 : k2 ≠ .empty) (m : Mode) (g : G) :
    TopSim (parseTop n { env with ek := k1 } m g) (parseTop n { env with ek := k2 } m g) := by
  have h := run_kindSim n env hm k1 k2 h1 h2 m (.thenIgnore g .end_) St.init St.init StSim.refl_init
  rw [parseTop_eq_top, parseTop_eq_top]
  exact topSim_of_outSim (env1 := { env with ek := k1 }) (env2 := { env with ek := k2 }) h1 h2 (fun _ _ => rfl) h

/-- no recovery strategy sits under a decoration (`labelled`, `as_context`, `map_err`).  `dr = true` additionally
    allows `call` under a decoration (then the definitions must be recovery free, see `DecoSafeDefs`). -/
def G.decoSafe (dr : Bool) (g : G) : Bool := g.adm true true dr false

/-- no recovery strategy at all (and `call` only if `dr`) -/
def G.recFree (dr : Bool) (g : G) : Bool := g.adm true true dr true

structure DecoSafeDefs (dr : Bool) (env : Env) : Prop where
  safe : ∀ d ∈ env.defs, G.decoSafe dr d = true
  recFree : dr = true → ∀ d ∈ env.defs, G.recFree dr d = true

theorem envRel_deco (s : Bool) (env : Env) (hm : env.memoOn = false) (hek : env.ek ≠ .empty) (dr : Bool)
    (hd : s = true → DecoSafeDefs dr env) :
    EnvRel s true dr env { env with defs := env.defs.map G.eraseDeco } where
  toks := rfl
  kind := rfl
  tspans := rfl
  eoi := rfl
  ek1 := hek
  ek2 := hek
  m1 := hm
  m2 := hm
  defs := by rw [show G.erase true = G.eraseDeco from funext G.erase_true]
  adm := by
    intro k d u hk hu
    have hmem := List.mem_of_getElem? hk
    cases s with
    | false => exact G.adm_weak true dr u d
    | true =>
      have hd' := hd rfl
      cases u with
      | false => exact hd'.safe d hmem
      | true =>
        rcases hu with hu | hu | hu
        · cases hu
        · cases hu
        · exact hd'.recFree hu d hmem

/-- **C17.** Erasing every `labelled`/`as_context`/`map_err` keeps the run in lock-step up to descriptions: same
    values, positions, inspector, context, number and spans of the secondary errors, position and span of the
    pending error — provided no recovery strategy sits under a decoration (without the proviso the spans differ,
    see `decoCex_secondary`, `decoCex_primary` below). -/
theorem run_decoSim (n : Nat) (env : Env) (hm : env.memoOn = false) (hek : env.ek ≠ .empty) (dr : Bool)
    (hd : DecoSafeDefs dr env) (m : Mode) (g : G) (hg : g.decoSafe dr = true) (st1 st2 : St) (hs : StSim st1 st2) :
    OutSim (run n env m g st1) (run n { env with defs := env.defs.map G.eraseDeco } m g.eraseDeco st2) := by
  have := (run_sim (envRel_deco true env hm hek dr (fun _ => hd)) n).1 none false m g st1 st2 ((StSim_iff _ _).mp hs)
    hg (fun _ _ => rfl)
  rw [G.erase_true] at this
  exact this.toSim

/-- **C17, top level** (same proviso): same output, same number of errors, pointwise the same spans. -/
theorem parseTop_decoSim (n : Nat) (env : Env) (hm : env.memoOn = false) (hek : env.ek ≠ .empty) (dr : Bool)
    (hd : DecoSafeDefs dr env) (m : Mode) (g : G) (hg : g.decoSafe dr = true) :
    TopSim (parseTop n env m g) (parseTop n { env with defs := env.defs.map G.eraseDeco } m g.eraseDeco) := by
  have h := run_decoSim n env hm hek dr hd m (.thenIgnore g .end_) (band_intro hg rfl) St.init St.init StSim.refl_init
  exact topSim_of_outSim (env1 := env) (env2 := { env with defs := env.defs.map G.eraseDeco }) hek hek (fun _ _ => rfl) h

/-- same cursor, inspector, context and the same number of secondary errors, recorded at the same positions -/
structure StSimW (a b : St) : Prop where
  pos : a.pos = b.pos
  insp : a.insp = b.insp
  ctx : a.ctx = b.ctx
  errs : a.errs.map (·.pos) = b.errs.map (·.pos)

inductive OutSimW : Out → Out → Prop
  | ok (v : Val) {a b : St} : StSimW a b → OutSimW (.ok v a) (.ok v b)
  | fail {a b : St} : StSimW a b → a.alt.isSome = true → b.alt.isSome = true → OutSimW (.fail a) (.fail b)
  | panic (w : Nat) : OutSimW (.panic w) (.panic w)
  | oof : OutSimW .oof .oof

theorem errRel_false_iff (xs ys : List Loc) : errRel false xs ys ↔ xs.map (·.pos) = ys.map (·.pos) := by
  constructor
  · intro h
    have := congrArg (List.map (fun p : Sh => p.1)) h
    simpa [Loc.shs, List.map_map, Function.comp_def] using this
  · intro h
    have hf : Loc.shs false = (fun p : Nat => ((p, ((0, 0) : Nat × Nat)) : Sh)) ∘ (·.pos) := by
      funext a; simp [Loc.shs]
    rw [errRel, hf, ← List.map_map, ← List.map_map, h]

theorem StSimW_iff (o : Option Sh) (a b : St) : StSimW a b ↔ Rel o false a b := by
  constructor
  · intro h; exact ⟨h.pos, h.insp, h.ctx, (errRel_false_iff _ _).mpr h.errs, fun h => by cases h⟩
  · intro h; exact ⟨h.pos, h.insp, h.ctx, (errRel_false_iff _ _).mp h.errs⟩

theorem OutRel.toSimW {o} {x y : Out} (h : OutRel o false x y) : OutSimW x y :=
  h.elim (fun v h => .ok v ((StSimW_iff _ _ _).mpr h)) (fun h hp => .fail ((StSimW_iff _ _ _).mpr h) hp.1 hp.2) .panic .oof

/-- **C17, every grammar.** Erasing the decorations never changes acceptance, values, the cursor, the inspector,
    the context, or the number (and recording positions) of the secondary errors; both runs panic / run out of
    fuel alike, and a failing run leaves a pending error in both. -/
theorem run_decoSim_weak (n : Nat) (env : Env) (hm : env.memoOn = false) (hek : env.ek ≠ .empty) (m : Mode) (g : G)
    (st1 st2 : St) (hs : StSimW st1 st2) :
    OutSimW (run n env m g st1) (run n { env with defs := env.defs.map G.eraseDeco } m g.eraseDeco st2) := by
  have := (run_sim (envRel_deco false env hm hek false (fun h => by cases h)) n).1 none false m g st1 st2
    ((StSimW_iff _ _ _).mp hs) (G.adm_weak true false false g) (fun h => by cases h)
  rw [G.erase_true] at this
  exact this.toSimW

/-- same output, same number of errors -/
def TopSimW (x y : TopOut) : Prop :=
  (∃ r1 f1 r2 f2, x = .result r1 f1 ∧ y = .result r2 f2 ∧ r1.output = r2.output ∧
      r1.errs.length = r2.errs.length ∧ StSimW f1 f2) ∨
  (∃ w, x = .panic w ∧ y = .panic w) ∨ (x = .oof ∧ y = .oof)

theorem topSimW_of_outSimW (env1 env2 : Env) {x y : Out} (h : OutSimW x y) : TopSimW (x.top env1) (y.top env2) := by
  cases h with
  | panic w => exact .inr (.inl ⟨w, rfl, rfl⟩)
  | oof => exact .inr (.inr ⟨rfl, rfl⟩)
  | @ok v a c h =>
    refine .inl ⟨_, a, _, c, rfl, rfl, rfl, ?_, h⟩
    have := congrArg List.length h.errs
    simpa using this
  | @fail a c h _ _ =>
    refine .inl ⟨_, a, _, c, rfl, rfl, rfl, ?_, h⟩
    have := congrArg List.length h.errs
    simp only [List.length_map] at this
    simp [this]

theorem parseTop_decoSim_weak (n : Nat) (env : Env) (hm : env.memoOn = false) (hek : env.ek ≠ .empty) (m : Mode) (g : G) :
    TopSimW (parseTop n env m g) (parseTop n { env with defs := env.defs.map G.eraseDeco } m g.eraseDeco) :=
  topSimW_of_outSimW _ _ (run_decoSim_weak n env hm hek m (.thenIgnore g .end_) St.init St.init ⟨rfl, rfl, rfl, rfl⟩)

/-! #### the proviso of `run_decoSim` is needed

  `choice(any.then(just 5), X.labelled(0))` on the input `[1, 2]`, where `X = just(7).recover_with(via_parser(r))`.
  The first alternative leaves a pending error at position 1 (span `1..2`).  Inside the label `just 7` fails at
  position 0 (span `0..1`) with the pending error *sheltered*, so recovery takes and emits the `0..1` error; without
  the label the pending error is the farther one, and recovery emits `1..2` instead (`take_alt().unwrap()`). -/

def decoCexEnv : Env := { toks := [1, 2], memoOn := false }
def decoCexG (r : G) : G := .or_ (.then_ .any (.just [5])) (.labelled 0 false (.recoverVia (.just [7]) r))

def TopOut.spans : TopOut → Option (Bool × List (Nat × Nat))
  | .result r _ => some (r.output.isSome, r.errs.map (·.span))
  | _ => none

/-- the secondary error has a different span (both parses succeed with one error) -/
theorem decoCex_secondary :
    (parseTop 10 decoCexEnv .emit (decoCexG (.then_ .any .any))).spans = some (true, [(0, 1)]) ∧
    (parseTop 10 { decoCexEnv with defs := decoCexEnv.defs.map G.eraseDeco } .emit
      (decoCexG (.then_ .any .any)).eraseDeco).spans = some (true, [(1, 2)]) := by
  decide +kernel

/-- the primary error has a different span too (both parses fail with two errors) -/
theorem decoCex_primary :
    (parseTop 10 decoCexEnv .emit (decoCexG .empty)).spans = some (false, [(0, 1), (1, 2)]) ∧
    (parseTop 10 { decoCexEnv with defs := decoCexEnv.defs.map G.eraseDeco } .emit
      (decoCexG .empty).eraseDeco).spans = some (false, [(1, 2), (0, 1)]) := by
  decide +kernel

end Chumsky

#print axioms Chumsky.run_kindSim
#print axioms Chumsky.next_kindSim
#print axioms Chumsky.mkIter_kindSim
#print axioms Chumsky.parseTop_kindSim
#print axioms Chumsky.run_decoSim
#print axioms Chumsky.parseTop_decoSim
#print axioms Chumsky.run_decoSim_weak
#print axioms Chumsky.parseTop_decoSim_weak
#print axioms Chumsky.decoCex_secondary
#print axioms Chumsky.decoCex_primary
