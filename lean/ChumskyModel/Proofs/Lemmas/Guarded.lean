/-
  Proofs/Lemmas/Guarded.lean — properties C12/C20: termination of GUARDED RECURSIVE grammars.

  `Total.lean` proves termination (no `oof`) for call-free grammars.  Here: every grammar of the FULL syntax
  (`G`/`It`, no class restriction) whose recursive references are *guarded* — a token is consumed (in the sense of
  `G.consumes`) between the entry of a definition body and every `.call` in it, `G.guarded` of Total.lean §1 —
  terminates on every input, from every start state, within the explicit fuel

      guardedFuel env g = depth g + maxDefDepth env * (|input| + 1) + |input| + 1        (+ 1 at top level)

  where `maxDefDepth env = depthL env.defs` is the largest `G.depth` of a definition body.

  §1  `DefsGuarded cd env : Bool`: the annotation `cd` is justified (`cdefsB`, sound for `CDefs`) and every body is
      `G.bodyOk` = `wf` ∧ `termOk` ∧ `guarded cd false`.   `G.mainOk` = `wf` ∧ `termOk` ∧ `guarded cd true`.
      `G.guarded_true`: the flag is monotone.
  §2  the measure: `wt env D seen s = D * (|input| - pos s + [seen])`, a budget in the sense of the engine of
      Total.lean §3 (`wt_budget`): a sub-parser that consumes pays for the flag, a guarded call pays `D` for the
      body's depth.  Lexicographic (remaining input, depth left in the body), made linear.
  §3  the theorems: `peg_guarded_terminates_at` (position-sensitive), `peg_guarded_terminates`,
      `run_guarded_terminates`, `parseTop_guarded_terminates` (machine side through `run_refines`, `memoOn = false`).
  §4  non-vacuity: `expr = '(' expr ')' | 'a'` and `value = '[' value,* ']' | digit+` are guarded and parse with the
      bound's fuel; `expr = expr 'a' | 'a'` is not guarded (for any annotation) and is out of fuel at every fuel.
-/
import ChumskyModel.Proofs.Lemmas.Total
namespace Chumsky

/-! ## 1. guarded tables -/

/-- Bool version of `CDefs` -/
def cdefsB (cd : Nat → Bool) (defs : List G) : Bool :=
  (List.range defs.length).all fun k => !cd k || (match defs[k]? with | some d => d.consumes cd | none => true)

/-- a definition body: well-formed, loops/recovery as termination needs them, every reference guarded -/
def G.bodyOk (cd : Nat → Bool) (nd : Nat) (d : G) : Bool := d.wf cd nd && (d.termOk cd && d.guarded cd false)

/-- the main grammar: as a body, but it may refer to the definitions at once -/
def G.mainOk (cd : Nat → Bool) (nd : Nat) (g : G) : Bool := g.wf cd nd && (g.termOk cd && g.guarded cd true)

/-- **guarded definition table** (w.r.t. the consumption annotation `cd`) -/
def DefsGuarded (cd : Nat → Bool) (env : Env) : Bool :=
  cdefsB cd env.defs && env.defs.all (G.bodyOk cd env.defs.length)

theorem cdefsB_sound {cd : Nat → Bool} {env : Env} (h : cdefsB cd env.defs = true) : CDefs cd env := by
  intro k dd he hk
  obtain ⟨hlt, _⟩ := List.getElem?_eq_some_iff.1 he
  have := List.all_eq_true.1 h k (List.mem_range.2 hlt)
  simpa [hk, he] using this

theorem G.guarded_true (cd : Nat → Bool) : ∀ (g : G) (b : Bool), g.guarded cd b = true → g.guarded cd true = true :=
  fun g _ _ => g.guarded_seen cd
theorem It.guarded_true (cd : Nat → Bool) : ∀ (it : It) (b : Bool), it.guarded cd b = true → it.guarded cd true = true :=
  fun it _ _ => it.guarded_seen cd
theorem guardedL_true (cd : Nat → Bool) : ∀ (gs : List G) (b : Bool), guardedL cd b gs = true → guardedL cd true gs = true :=
  fun gs _ _ => guardedL_seen cd gs
theorem guardedS_true (cd : Nat → Bool) : ∀ (gs : List G) (b : Bool), guardedS cd b gs = true → guardedS cd true gs = true :=
  fun gs _ _ => guardedS_seen cd gs

theorem G.mainOk_of_bodyOk {cd : Nat → Bool} {nd : Nat} {g : G} (h : g.bodyOk cd nd = true) : g.mainOk cd nd = true := by
  obtain ⟨hw, h2⟩ := Bool.and_eq_true_iff.1 h
  exact and_true_intro hw (and_true_intro (Bool.and_eq_true_iff.1 h2).1 (g.guarded_seen cd))

/-! ## 2. the measure -/

/-- `D * (remaining input + [a token has been consumed since the body was entered])` -/
def wt (env : Env) (D : Nat) (b : Bool) (s : SS) : Nat := D * (env.toks.length - s.pos + b.toNat)

/-- the position moving on does not raise the weight; a consumed token pays for the flag; a (guarded) call, whose body
    starts with `seen = false`, has `D` to spend on the body's depth -/
theorem wt_budget (env : Env) (D : Nat) : Budget env D (wt env D) where
  mono h := Nat.mul_le_mul_left _ (by omega)
  seen := by
    intro b s s1 h1 h2
    exact Nat.mul_le_mul_left _ (by cases b <;> simp <;> omega)
  call s := by simp [wt, Nat.mul_add]

theorem wt_bound (env : Env) (D : Nat) (b : Bool) (s : SS) : wt env D b s ≤ D * (env.toks.length + 1) := by
  unfold wt
  apply Nat.mul_le_mul_left
  cases b <;> simp <;> omega

/-- `adm2 h`: admissibility of a child, at the flag it is run with, from that (`h`) of the node, by unfolding the syntactic predicates with `simp`.
    The engine uses the lemmas about Booleans `Ok.pred`, `Ok.and`, …: naming the recursive predicates as `simp` arguments makes Lean generate their equation lemmas, one per constructor. -/
macro "adm2 " h:ident : tactic => `(tactic| (
  simp only [AdmG, AdmGI, AdmGL, AdmGS] at $h:ident ⊢
  have h1 := ($h).1
  have h2 := ($h).2.1
  have h3 := ($h).2.2
  simp only [G.wf, It.wf, wfL, Bool.and_eq_true] at h1
  simp only [G.termOk, It.termOk, termOkL, Bool.and_eq_true] at h2
  simp only [G.guarded, It.guarded, guardedL, guardedS, Bool.and_eq_true] at h3
  simp [h1, h2, h3]))

/-! ## 3. guarded recursive grammars terminate -/

/-- the largest depth of a definition body -/
def maxDefDepth (env : Env) : Nat := depthL env.defs

/-- **the fuel bound** -/
def guardedFuel (env : Env) (g : G) : Nat :=
  g.depth + maxDefDepth env * (env.toks.length + 1) + env.toks.length + 1

theorem depth_le_depthL {g : G} : ∀ {gs : List G}, g ∈ gs → g.depth ≤ depthL gs
  | x :: xs, h => by
    have : depthL (x :: xs) = max x.depth (depthL xs) := rfl
    rcases List.mem_cons.1 h with rfl | h
    · omega
    · have := depth_le_depthL h; omega

theorem defsGuarded_cdefs {cd : Nat → Bool} {env : Env} (hd : DefsGuarded cd env = true) : CDefs cd env :=
  cdefsB_sound (Bool.and_eq_true_iff.1 hd).1

theorem defsGuarded_body {cd : Nat → Bool} {env : Env} (hd : DefsGuarded cd env = true) {dd : G} (hm : dd ∈ env.defs) :
    dd.bodyOk cd env.defs.length = true :=
  List.all_eq_true.1 (Bool.and_eq_true_iff.1 hd).2 dd hm

theorem defsGuarded_bodies {cd : Nat → Bool} {env : Env} (hd : DefsGuarded cd env = true) :
    ∀ k dd, k < env.defs.length → env.defs[k]? = some dd →
      Ok True (dd.wf cd env.defs.length) (dd.termOk cd) (dd.guarded cd false) dd.depth 0 (maxDefDepth env) := by
  intro k dd _ he
  have hm : dd ∈ env.defs := List.mem_of_getElem? he
  obtain ⟨hw, h2⟩ := Bool.and_eq_true_iff.1 (defsGuarded_body hd hm)
  obtain ⟨ht, hg⟩ := Bool.and_eq_true_iff.1 h2
  exact ⟨hw, fun _ => ⟨ht, hg, depth_le_depthL hm⟩⟩

theorem defsGuarded_defsWf {cd : Nat → Bool} {env : Env} (hd : DefsGuarded cd env = true) : DefsWf cd env :=
  ⟨defsGuarded_cdefs hd, fun _ hm => (Bool.and_eq_true_iff.1 (defsGuarded_body hd hm)).1⟩

/-- **C12/C20, spec side, position-sensitive form.** from the start state `s`, fuel
    `depth g + maxDefDepth * (remaining input + 1) + |input| + 1` suffices -/
theorem peg_guarded_terminates_at {cd : Nat → Bool} (n : Nat) (env : Env) (g : G) (s : SS) (ctx : Val)
    (hd : DefsGuarded cd env = true) (hg : g.mainOk cd env.defs.length = true)
    (hn : g.depth + maxDefDepth env * (env.toks.length - s.pos + 1) + env.toks.length + 1 ≤ n) :
    peg n env g s ctx ≠ .oof ∧ ∀ w, peg n env g s ctx ≠ .panic w := by
  obtain ⟨hw, h2⟩ := Bool.and_eq_true_iff.1 hg
  obtain ⟨ht, hgd⟩ := Bool.and_eq_true_iff.1 h2
  exact ((good_all env (defsGuarded_cdefs hd) (wt_budget env (maxDefDepth env)) (Nat.le_refl _) (defsGuarded_bodies hd)
    n).1 g s ctx true ⟨hw, fun _ => ⟨ht, hgd, by
      show g.depth + (maxDefDepth env * (env.toks.length - s.pos + 1) + env.toks.length + 1) ≤ n
      omega⟩⟩).notStuck

/-- **C12/C20, spec side.** a guarded definition table and a main grammar over it: with fuel `guardedFuel env g`
    the reading neither runs out of fuel nor panics — on every input, from every start state -/
theorem peg_guarded_terminates {cd : Nat → Bool} (n : Nat) (env : Env) (g : G) (s : SS) (ctx : Val)
    (hd : DefsGuarded cd env = true) (hg : g.mainOk cd env.defs.length = true) (hn : guardedFuel env g ≤ n) :
    peg n env g s ctx ≠ .oof ∧ ∀ w, peg n env g s ctx ≠ .panic w := by
  refine peg_guarded_terminates_at n env g s ctx hd hg (Nat.le_trans ?_ hn)
  have : maxDefDepth env * (env.toks.length - s.pos + 1) ≤ maxDefDepth env * (env.toks.length + 1) :=
    Nat.mul_le_mul_left _ (by omega)
  unfold guardedFuel
  omega

/-- **C12/C20, the machine.** -/
theorem run_guarded_terminates {cd : Nat → Bool} (n : Nat) (env : Env) (m : Mode) (g : G) (st : St)
    (hm : env.memoOn = false) (hd : DefsGuarded cd env = true) (hg : g.mainOk cd env.defs.length = true)
    (hn : guardedFuel env g ≤ n) :
    run n env m g st ≠ .oof ∧ ∀ w, run n env m g st ≠ .panic w :=
  run_notStuck hm (peg_guarded_terminates n env g _ _ hd hg hn)

/-- **C12/C20, top level.** `parse`/`check` of a guarded recursive grammar return a `ParseResult` -/
theorem parseTop_guarded_terminates {cd : Nat → Bool} (n : Nat) (env : Env) (m : Mode) (g : G)
    (hm : env.memoOn = false) (hd : DefsGuarded cd env = true) (hg : g.mainOk cd env.defs.length = true)
    (hn : guardedFuel env g + 1 ≤ n) :
    ∃ r final, parseTop n env m g = .result r final := by
  obtain ⟨hw, h2⟩ := Bool.and_eq_true_iff.1 hg
  have hg' : (G.thenIgnore g .end_).mainOk cd env.defs.length = true :=
    and_true_intro (and_true_intro hw rfl) (and_true_intro (and_true_intro (Bool.and_eq_true_iff.1 h2).1 rfl)
      (G.guarded_seen cd _))
  have hfuel : max g.depth 1 + 1 + maxDefDepth env * (env.toks.length + 1) + env.toks.length + 1 ≤ n := by
    have := g.depth_pos
    unfold guardedFuel at hn
    omega
  exact parseTop_returns (run_guarded_terminates n env m (.thenIgnore g .end_) St.init hm hd hg' hfuel)

/-! ## 4. non-vacuity -/

section examples

/-- `expr = '(' expr ')' | 'a'` as definition 0 -/
def parenDefs : List G := [.or_ (.delimitedBy (.call 0) (.just [40]) (.just [41])) (.just [97])]
def parenEnv (toks : List Nat) : Env := { toks := toks, defs := parenDefs, memoOn := false }

/-- the table is guarded (under the annotation "definition 0 consumes", which the check justifies) -/
theorem parenEnv_guarded (toks : List Nat) : DefsGuarded allCalls (parenEnv toks) = true := rfl
theorem parenMain_ok (toks : List Nat) : (G.call 0).mainOk allCalls (parenEnv toks).defs.length = true := rfl
/-- `parse` returns a result on every input with the bound's fuel (here `3 * (|input| + 1) + |input| + 3`) -/
theorem paren_terminates (toks : List Nat) (m : Mode) :
    ∃ r final, parseTop (guardedFuel (parenEnv toks) (.call 0) + 1) (parenEnv toks) m (.call 0) = .result r final :=
  parseTop_guarded_terminates _ (parenEnv toks) m (.call 0) rfl (parenEnv_guarded toks) (parenMain_ok toks) (Nat.le_refl _)

example : guardedFuel (parenEnv [40, 40, 97, 41, 41]) (.call 0) + 1 = 26 := by decide

/-- the nested input `((a))` parses, with exactly the bound's fuel, to the innermost `a`, consuming all 5 tokens -/
example :
    (match parseTop (guardedFuel (parenEnv [40, 40, 97, 41, 41]) (.call 0) + 1) (parenEnv [40, 40, 97, 41, 41]) .emit
        (.call 0) with
      | .result r f => (r.output, f.pos)
      | _ => (none, 0)) = (some (.toks [97]), 5) := by
  decide +kernel

/-- a table with a loop: `value = '[' value,* ']' | digit+` (`exValue` of Total.lean) is guarded as well -/
theorem exEnv_guarded (toks : List Nat) : DefsGuarded allCalls (exEnv toks) = true := rfl

theorem exValue_terminates (toks : List Nat) (m : Mode) :
    ∃ r final, parseTop (guardedFuel (exEnv toks) (.call 0) + 1) (exEnv toks) m (.call 0) = .result r final :=
  parseTop_guarded_terminates _ (exEnv toks) m (.call 0) rfl (exEnv_guarded toks) rfl (Nat.le_refl _)

/-- the left-recursive `expr = expr 'a' | 'a'` -/
def leftDefs : List G := [.or_ (.then_ (.call 0) (.just [97])) (.just [97])]

/-- … is NOT guarded, whatever the consumption annotation -/
example (cd : Nat → Bool) (toks : List Nat) : DefsGuarded cd { toks := toks, defs := leftDefs } = false :=
  Bool.and_false _

/-- … and indeed never terminates: out of fuel at every fuel, on every input, from every state -/
theorem leftRec_oof (env : Env) (he : env.defs = leftDefs) : ∀ n s ctx, peg n env (.call 0) s ctx = .oof := by
  intro n
  induction n using Nat.strongRecOn with
  | _ n ih =>
    intro s ctx
    cases n with
    | zero => simp [peg]
    | succ n =>
      cases n with
      | zero => simp [peg, step_eqs, he, leftDefs]
      | succ n =>
        cases n with
        | zero => simp [peg, step_eqs, he, leftDefs, sChoice]
        | succ n =>
          have := ih n (by omega) s ctx
          simp [peg, step_eqs, he, leftDefs, sChoice, this, SOut.andThen]

theorem leftRec_parseTop_oof (env : Env) (he : env.defs = leftDefs) (hm : env.memoOn = false) (n : Nat) (m : Mode) :
    parseTop n env m (.call 0) = .oof := by
  have hp : peg n env (.thenIgnore (.call 0) .end_) ⟨0, []⟩ .unit = .oof := by
    cases n with
    | zero => simp [peg]
    | succ n => simp [peg, step_eqs, leftRec_oof env he n, SOut.andThen]
  have hr := run_refines n env m (.thenIgnore (.call 0) .end_) St.init hm
  have e1 : St.init.ss = ⟨0, []⟩ := rfl
  have e2 : St.init.ctx = .unit := rfl
  rw [e1, e2, hp] at hr
  unfold parseTop
  revert hr
  cases run n env m (.thenIgnore (.call 0) .end_) St.init <;> simp [Refines]

end examples

#print axioms G.guarded_true

#print axioms peg_guarded_terminates_at
#print axioms peg_guarded_terminates
#print axioms run_guarded_terminates
#print axioms parseTop_guarded_terminates
#print axioms paren_terminates
#print axioms exValue_terminates
#print axioms leftRec_oof
#print axioms leftRec_parseTop_oof

end Chumsky
