/-
  Proofs/Lemmas/Total.lean — property C20 (totality): `parse`/`check` return a `ParseResult`.

  All statements are first proved on the reference semantics (`peg`, Model/Spec.lean) by the open-recursion
  method of SpecInv.lean (one lemma per loop helper, `pegStep`/`pegNext`/`pegMk` for arbitrary runners, induction
  on the fuel) and then transferred to the machine (`run`, `parseTop`) through the master refinement
  `run_refines` (memoization off).

  §0  the primitives return a match or a failure.
  §1  syntactic predicates (structural recursion on the nested mutual syntax), on top of `G.consumes cd` (every
      successful match takes ≥ 1 token; conservative; `cd k` = "definition `k` consumes") and `It.advances cd` (every
      item of the iterator moves the position) of SpecInv.lean:
        `G.wf cd nd`      no `todo`, no empty tuple-`choice`, references `< nd`, iterator shapes as implemented,
                          and for every fuel-driven loop (`collect`, `foldl`, `foldr`, …) the iterator either
                          tolerates non-consumption (`NONCONSUMPTION_IS_OK`) or `advances`
        `G.termOk cd`     what termination needs on top: recovery `skip` parsers consume, looped iterators advance
        `G.depth`         nesting depth + 1
        `G.guarded cd b`  every `.call` is reached only after a token has been consumed (`b`: one has been already);
                          the right-hand parts of a sequence are checked with `b || left.consumes cd`, everything else
                          (alternatives, options, lookahead, loop items, separators, recovery parsers) inherits `b`
  §2  two instances of the analysis of the outcomes of the reading in SpecInv.lean (`claim_all`: the panics are among
      a set `B`, start and end position of a success are related by a relation graded by `consumes` / `advances`).
      (a) C20 (1), the panic sites (the relation says nothing).  `peg_panic_sites`: a panic of the spec is
      `todo!()`, a no-progress assertion, an ill-typed grammar or an undefined reference — for ALL grammars.  Hence
      `run_no_unwrap_panic`, `parseTop_no_unwrap_panic`: the two "can't fail" `take_alt().unwrap()`s never fire.
      (b) soundness of `consumes`/`advances` (`B` says nothing): `peg_consumes`, `pegNext'_advances`, given that the
      annotation `cd` is justified by the definitions (`CDefs`).
  §3  one engine (`pegStep_good`, `pegNext_good`, `pegMk_good`, `good_all`), parametric in whether termination is
      claimed (`T`) and in the budget `μ` that pays for calls, for
        C20 (2) `peg_wf_no_panic` / `run_wf_no_panic` / `parseTop_wf_no_panic`: well-formed grammars never panic
            (recursive grammars included, any fuel, any input, any start state);
        C20 (3) `peg_terminates` / `run_terminates` / `parseTop_terminates`: a call-free `wfTerm` grammar run with
            fuel `≥ depth + |input| + 1` (`+ 2` at top level) neither runs out of fuel nor panics;
        and, in Guarded.lean, termination of guarded recursive grammars.
      The iterator-state invariant is `It.Fits` (the `ItSt` handed to `next` is one that `make_iter`/`next` of the
      same iterator produced).
  §4  witnesses: what the hypotheses cannot be weakened to (a well-formed grammar that hangs, a consuming
      repetition that trips the no-progress assertion, an `into_iter` loop that needs more fuel than depth + input).
  §5  sanity: the predicates evaluated on sample grammars (`allCalls`, used by Guarded.lean too).
-/
import ChumskyModel.Proofs.Lemmas.Master
import ChumskyModel.Proofs.Lemmas.SpecInv
namespace Chumsky

/-! ## 0. the primitives -/

section prelim
variable {env : Env}

/-- a match or a failure: what the primitives return -/
def SOut.Plain : SOut → Prop
  | .ok .. => True
  | .fail => True
  | _ => False

theorem sTokenPrim_plain (s : SS) (accept : Nat → Option Val) : (sTokenPrim env s accept).Plain := by
  unfold sTokenPrim
  cases env.toks[s.pos]? with
  | none => trivial
  | some t => dsimp only; cases accept t <;> trivial

theorem sCustom_plain (f : CustomFn) (s : SS) : (sCustom env f s).Plain := by
  cases f
  case next => unfold sCustom; cases env.toks[s.pos]? <;> trivial
  all_goals trivial

theorem sJust_plain (ts : List Nat) (v : Val) (s : SS) :
    (match sJust env ts s with
      | some s' => SOut.ok v s' []
      | none => .fail).Plain := by
  cases sJust env ts s <;> trivial

end prelim


/-! ## 1. syntactic predicates -/

/-- the iterator tolerates non-advancing items, or every item advances: what the `debug_assert!`s need -/
def It.loopOk (cd : Nat → Bool) (it : It) : Bool := it.nonconsOk || (it.advances cd)

/-- the iterator shapes `IterParser`-as-`Parser` is implemented for; the plain `repeated`/`separated_by` loops
    assert progress -/
def It.iterPOk (cd : Nat → Bool) : It → Bool
  | .repeated a _ _ => (a.consumes cd)
  | .separatedBy a _ _ _ _ _ => (a.consumes cd)
  | .configureRep _ _ => true
  | .tryConfigureRep _ _ => true
  | .intoIter _ => true
  | _ => false

def It.isRepeated : It → Bool
  | .repeated .. => true
  | _ => false

/-! ### `wf nd`: well-formed, all references below `nd` -/

mutual
def G.wf (cd : Nat → Bool) (nd : Nat) : G → Bool
  | .end_ => true
  | .empty => true
  | .any => true
  | .just _ => true
  | .oneOf _ => true
  | .noneOf _ => true
  | .select _ => true
  | .custom _ => true
  | .todo => false
  | .then_ a b => (a.wf cd nd) && (b.wf cd nd)
  | .ignoreThen a b => (a.wf cd nd) && (b.wf cd nd)
  | .thenIgnore a b => (a.wf cd nd) && (b.wf cd nd)
  | .delimitedBy a l r => (a.wf cd nd) && ((l.wf cd nd) && (r.wf cd nd))
  | .paddedBy a p => (a.wf cd nd) && (p.wf cd nd)
  | .group gs => wfL cd nd gs
  | .groupArr gs => wfL cd nd gs
  | .or_ a b => (a.wf cd nd) && (b.wf cd nd)
  | .choice fl gs => wfL cd nd gs && (match fl with | .tuple => !gs.isEmpty | .slice => true)
  | .orNot a => (a.wf cd nd)
  | .not_ a => (a.wf cd nd)
  | .andIs a b => (a.wf cd nd) && (b.wf cd nd)
  | .rewind a => (a.wf cd nd)
  | .map _ a => (a.wf cd nd)
  | .to _ a => (a.wf cd nd)
  | .ignored a => (a.wf cd nd)
  | .filter _ a => (a.wf cd nd)
  | .tryMap _ a => (a.wf cd nd)
  | .tryMapWith _ a => (a.wf cd nd)
  | .toSpan a => (a.wf cd nd)
  | .toSlice a => (a.wf cd nd)
  | .mapWithSpan a => (a.wf cd nd)
  | .mapWithState a => (a.wf cd nd)
  | .mapWithCtx a => (a.wf cd nd)
  | .validate _ a => (a.wf cd nd)
  | .collect _ it => (it.wf cd nd) && (it.loopOk cd)
  | .collectExactly _ it => (it.wf cd nd)
  | .foldl _ a it => (a.wf cd nd) && ((it.wf cd nd) && (it.loopOk cd))
  | .foldr _ it b => (it.wf cd nd) && ((b.wf cd nd) && (it.loopOk cd))
  | .foldlWith a it => (a.wf cd nd) && ((it.wf cd nd) && (it.loopOk cd))
  | .foldrWith it b => (it.wf cd nd) && ((b.wf cd nd) && (it.loopOk cd))
  | .iterP it => (it.wf cd nd) && (it.iterPOk cd)
  | .recoverVia a r => (a.wf cd nd) && (r.wf cd nd)
  | .recoverSkipUntil a skip until_ _ => (a.wf cd nd) && ((skip.wf cd nd) && (until_.wf cd nd))
  | .recoverSkipRetry a skip until_ => (a.wf cd nd) && ((skip.wf cd nd) && (until_.wf cd nd))
  | .labelled _ _ a => (a.wf cd nd)
  | .mapErr _ a => (a.wf cd nd)
  | .withCtx _ a => (a.wf cd nd)
  | .ignoreWithCtx a b => (a.wf cd nd) && (b.wf cd nd)
  | .thenWithCtx a b => (a.wf cd nd) && (b.wf cd nd)
  | .mapCtx _ a => (a.wf cd nd)
  | .configureJust _ _ => true
  | .withState a => (a.wf cd nd)
  | .memoized _ a => (a.wf cd nd)
  | .call k => decide (k < nd)
  | .boxed a => (a.wf cd nd)
def It.wf (cd : Nat → Bool) (nd : Nat) : It → Bool
  | .repeated a _ _ => (a.wf cd nd)
  | .separatedBy a sep _ _ _ _ => (a.wf cd nd) && (sep.wf cd nd)
  | .enumerate it => (it.wf cd nd)
  | .orNotIt a => (a.wf cd nd)
  | .intoIter a => (a.wf cd nd)
  | .thenIt a b => (a.wf cd nd) && (b.wf cd nd)
  | .mapIt _ it => (it.wf cd nd)
  | .configureRep _ it => (it.wf cd nd) && it.isRepeated
  | .tryConfigureRep _ it => (it.wf cd nd) && it.isRepeated
def wfL (cd : Nat → Bool) (nd : Nat) : List G → Bool
  | [] => true
  | g :: gs => (g.wf cd nd) && wfL cd nd gs
end

/-! ### `termOk`: what termination needs on top of `wf 0` -/

/-- the `Parser` loop over a configured `repeated` asserts nothing: termination needs the item to consume -/
def It.iterPTerm (cd : Nat → Bool) : It → Bool
  | .configureRep _ it => (it.advances cd)
  | .tryConfigureRep _ it => (it.advances cd)
  | _ => true

mutual
def G.termOk (cd : Nat → Bool) : G → Bool
  | .end_ => true
  | .empty => true
  | .any => true
  | .just _ => true
  | .oneOf _ => true
  | .noneOf _ => true
  | .select _ => true
  | .custom _ => true
  | .todo => true
  | .then_ a b => (a.termOk cd) && (b.termOk cd)
  | .ignoreThen a b => (a.termOk cd) && (b.termOk cd)
  | .thenIgnore a b => (a.termOk cd) && (b.termOk cd)
  | .delimitedBy a l r => (a.termOk cd) && ((l.termOk cd) && (r.termOk cd))
  | .paddedBy a p => (a.termOk cd) && (p.termOk cd)
  | .group gs => termOkL cd gs
  | .groupArr gs => termOkL cd gs
  | .or_ a b => (a.termOk cd) && (b.termOk cd)
  | .choice _ gs => termOkL cd gs
  | .orNot a => (a.termOk cd)
  | .not_ a => (a.termOk cd)
  | .andIs a b => (a.termOk cd) && (b.termOk cd)
  | .rewind a => (a.termOk cd)
  | .map _ a => (a.termOk cd)
  | .to _ a => (a.termOk cd)
  | .ignored a => (a.termOk cd)
  | .filter _ a => (a.termOk cd)
  | .tryMap _ a => (a.termOk cd)
  | .tryMapWith _ a => (a.termOk cd)
  | .toSpan a => (a.termOk cd)
  | .toSlice a => (a.termOk cd)
  | .mapWithSpan a => (a.termOk cd)
  | .mapWithState a => (a.termOk cd)
  | .mapWithCtx a => (a.termOk cd)
  | .validate _ a => (a.termOk cd)
  | .collect _ it => (it.termOk cd) && (it.advances cd)
  | .collectExactly _ it => (it.termOk cd)
  | .foldl _ a it => (a.termOk cd) && ((it.termOk cd) && (it.advances cd))
  | .foldr _ it b => (it.termOk cd) && ((b.termOk cd) && (it.advances cd))
  | .foldlWith a it => (a.termOk cd) && ((it.termOk cd) && (it.advances cd))
  | .foldrWith it b => (it.termOk cd) && ((b.termOk cd) && (it.advances cd))
  | .iterP it => (it.termOk cd) && (it.iterPTerm cd)
  | .recoverVia a r => (a.termOk cd) && (r.termOk cd)
  | .recoverSkipUntil a skip until_ _ => (a.termOk cd) && ((skip.termOk cd) && ((until_.termOk cd) && (skip.consumes cd)))
  | .recoverSkipRetry a skip until_ => (a.termOk cd) && ((skip.termOk cd) && ((until_.termOk cd) && (skip.consumes cd)))
  | .labelled _ _ a => (a.termOk cd)
  | .mapErr _ a => (a.termOk cd)
  | .withCtx _ a => (a.termOk cd)
  | .ignoreWithCtx a b => (a.termOk cd) && (b.termOk cd)
  | .thenWithCtx a b => (a.termOk cd) && (b.termOk cd)
  | .mapCtx _ a => (a.termOk cd)
  | .configureJust _ _ => true
  | .withState a => (a.termOk cd)
  | .memoized _ a => (a.termOk cd)
  | .call _ => true
  | .boxed a => (a.termOk cd)
def It.termOk (cd : Nat → Bool) : It → Bool
  | .repeated a _ _ => (a.termOk cd)
  | .separatedBy a sep _ _ _ _ => (a.termOk cd) && (sep.termOk cd)
  | .enumerate it => (it.termOk cd)
  | .orNotIt a => (a.termOk cd)
  | .intoIter a => (a.termOk cd)
  | .thenIt a b => (a.termOk cd) && (b.termOk cd)
  | .mapIt _ it => (it.termOk cd)
  | .configureRep _ it => (it.termOk cd)
  | .tryConfigureRep _ it => (it.termOk cd)
def termOkL (cd : Nat → Bool) : List G → Bool
  | [] => true
  | g :: gs => (g.termOk cd) && termOkL cd gs
end

/-! ### `depth`: nesting depth (+ 1), iterators included -/

mutual
def G.depth : G → Nat
  | .end_ => 1
  | .empty => 1
  | .any => 1
  | .just _ => 1
  | .oneOf _ => 1
  | .noneOf _ => 1
  | .select _ => 1
  | .custom _ => 1
  | .todo => 1
  | .then_ a b => max a.depth b.depth + 1
  | .ignoreThen a b => max a.depth b.depth + 1
  | .thenIgnore a b => max a.depth b.depth + 1
  | .delimitedBy a l r => max a.depth (max l.depth r.depth) + 1
  | .paddedBy a p => max a.depth p.depth + 1
  | .group gs => depthL gs + 1
  | .groupArr gs => depthL gs + 1
  | .or_ a b => max a.depth b.depth + 1
  | .choice _ gs => depthL gs + 1
  | .orNot a => a.depth + 1
  | .not_ a => a.depth + 1
  | .andIs a b => max a.depth b.depth + 1
  | .rewind a => a.depth + 1
  | .map _ a => a.depth + 1
  | .to _ a => a.depth + 1
  | .ignored a => a.depth + 1
  | .filter _ a => a.depth + 1
  | .tryMap _ a => a.depth + 1
  | .tryMapWith _ a => a.depth + 1
  | .toSpan a => a.depth + 1
  | .toSlice a => a.depth + 1
  | .mapWithSpan a => a.depth + 1
  | .mapWithState a => a.depth + 1
  | .mapWithCtx a => a.depth + 1
  | .validate _ a => a.depth + 1
  | .collect _ it => it.depth + 1
  | .collectExactly _ it => it.depth + 1
  | .foldl _ a it => max a.depth it.depth + 1
  | .foldr _ it b => max it.depth b.depth + 1
  | .foldlWith a it => max a.depth it.depth + 1
  | .foldrWith it b => max it.depth b.depth + 1
  | .iterP it => it.depth + 1
  | .recoverVia a r => max a.depth r.depth + 1
  | .recoverSkipUntil a skip until_ _ => max a.depth (max skip.depth until_.depth) + 1
  | .recoverSkipRetry a skip until_ => max a.depth (max skip.depth until_.depth) + 1
  | .labelled _ _ a => a.depth + 1
  | .mapErr _ a => a.depth + 1
  | .withCtx _ a => a.depth + 1
  | .ignoreWithCtx a b => max a.depth b.depth + 1
  | .thenWithCtx a b => max a.depth b.depth + 1
  | .mapCtx _ a => a.depth + 1
  | .configureJust _ _ => 1
  | .withState a => a.depth + 1
  | .memoized _ a => a.depth + 1
  | .call _ => 1
  | .boxed a => a.depth + 1
def It.depth : It → Nat
  | .repeated a _ _ => a.depth + 1
  | .separatedBy a sep _ _ _ _ => max a.depth sep.depth + 1
  | .enumerate it => it.depth + 1
  | .orNotIt a => a.depth + 1
  | .intoIter a => a.depth + 1
  | .thenIt a b => max a.depth b.depth + 1
  | .mapIt _ it => it.depth + 1
  | .configureRep _ it => it.depth + 1
  | .tryConfigureRep _ it => it.depth + 1
def depthL : List G → Nat
  | [] => 0
  | g :: gs => max g.depth (depthL gs)
end

theorem G.depth_pos (g : G) : 0 < g.depth := by cases g <;> exact Nat.succ_pos _
theorem It.depth_pos (it : It) : 0 < it.depth := by cases it <;> exact Nat.succ_pos _

mutual
/-- every `.call` in the grammar is reached only after a token has been consumed; `seen`: one has been already -/
def G.guarded (cd : Nat → Bool) : Bool → G → Bool
  | _, .end_ => true
  | _, .empty => true
  | _, .any => true
  | _, .just _ => true
  | _, .oneOf _ => true
  | _, .noneOf _ => true
  | _, .select _ => true
  | _, .custom _ => true
  | _, .todo => true
  | b, .then_ x y => (x.guarded cd b) && (y.guarded cd (b || x.consumes cd))
  | b, .ignoreThen x y => (x.guarded cd b) && (y.guarded cd (b || x.consumes cd))
  | b, .thenIgnore x y => (x.guarded cd b) && (y.guarded cd (b || x.consumes cd))
  | b, .delimitedBy x l r => (l.guarded cd b) && ((x.guarded cd (b || l.consumes cd)) &&
      (r.guarded cd ((b || l.consumes cd) || x.consumes cd)))
  | b, .paddedBy x p => (p.guarded cd b) && (x.guarded cd (b || p.consumes cd))
  | b, .group gs => guardedS cd b gs
  | b, .groupArr gs => guardedS cd b gs
  | b, .or_ x y => (x.guarded cd b) && (y.guarded cd b)
  | b, .choice _ gs => guardedL cd b gs
  | b, .orNot x => x.guarded cd b
  | b, .not_ x => x.guarded cd b
  | b, .andIs x y => (x.guarded cd b) && (y.guarded cd b)
  | b, .rewind x => x.guarded cd b
  | b, .map _ x => x.guarded cd b
  | b, .to _ x => x.guarded cd b
  | b, .ignored x => x.guarded cd b
  | b, .filter _ x => x.guarded cd b
  | b, .tryMap _ x => x.guarded cd b
  | b, .tryMapWith _ x => x.guarded cd b
  | b, .toSpan x => x.guarded cd b
  | b, .toSlice x => x.guarded cd b
  | b, .mapWithSpan x => x.guarded cd b
  | b, .mapWithState x => x.guarded cd b
  | b, .mapWithCtx x => x.guarded cd b
  | b, .validate _ x => x.guarded cd b
  | b, .collect _ it => it.guarded cd b
  | b, .collectExactly _ it => it.guarded cd b
  | b, .foldl _ x it => (x.guarded cd b) && (it.guarded cd (b || x.consumes cd))
  | b, .foldr _ it y => (it.guarded cd b) && (y.guarded cd b)
  | b, .foldlWith x it => (x.guarded cd b) && (it.guarded cd (b || x.consumes cd))
  | b, .foldrWith it y => (it.guarded cd b) && (y.guarded cd b)
  | b, .iterP it => it.guarded cd b
  | b, .recoverVia x r => (x.guarded cd b) && (r.guarded cd b)
  | b, .recoverSkipUntil x skip until_ _ => (x.guarded cd b) && ((skip.guarded cd b) && (until_.guarded cd b))
  | b, .recoverSkipRetry x skip until_ => (x.guarded cd b) && ((skip.guarded cd b) && (until_.guarded cd b))
  | b, .labelled _ _ x => x.guarded cd b
  | b, .mapErr _ x => x.guarded cd b
  | b, .withCtx _ x => x.guarded cd b
  | b, .ignoreWithCtx x y => (x.guarded cd b) && (y.guarded cd (b || x.consumes cd))
  | b, .thenWithCtx x y => (x.guarded cd b) && (y.guarded cd (b || x.consumes cd))
  | b, .mapCtx _ x => x.guarded cd b
  | _, .configureJust _ _ => true
  | b, .withState x => x.guarded cd b
  | b, .memoized _ x => x.guarded cd b
  | b, .call _ => b
  | b, .boxed x => x.guarded cd b
def It.guarded (cd : Nat → Bool) : Bool → It → Bool
  | b, .repeated x _ _ => x.guarded cd b
  | b, .separatedBy x sep _ _ _ _ => (x.guarded cd b) && (sep.guarded cd b)
  | b, .enumerate it => it.guarded cd b
  | b, .orNotIt x => x.guarded cd b
  | b, .intoIter x => x.guarded cd b
  | b, .thenIt x y => (x.guarded cd b) && (y.guarded cd b)
  | b, .mapIt _ it => it.guarded cd b
  | b, .configureRep _ it => it.guarded cd b
  | b, .tryConfigureRep _ it => it.guarded cd b
/-- alternatives: all start where the choice starts -/
def guardedL (cd : Nat → Bool) : Bool → List G → Bool
  | _, [] => true
  | b, g :: gs => (g.guarded cd b) && guardedL cd b gs
/-- a tuple/array `group`: left to right -/
def guardedS (cd : Nat → Bool) : Bool → List G → Bool
  | _, [] => true
  | b, g :: gs => (g.guarded cd b) && guardedS cd (b || g.consumes cd) gs
end

theorem and_true_intro {x y : Bool} (hx : x = true) (hy : y = true) : (x && y) = true :=
  Bool.and_eq_true_iff.2 ⟨hx, hy⟩

mutual
theorem G.guarded_seen (cd : Nat → Bool) : ∀ g : G, g.guarded cd true = true := by
  intro g
  cases g
  case end_ | empty | any | just | oneOf | noneOf | select | custom | todo | configureJust | call => rfl
  case orNot x | not_ x | rewind x | map x | to x | ignored x | filter x | tryMap x | tryMapWith x | toSpan x | toSlice x
      | mapWithSpan x | mapWithState x | mapWithCtx x | validate x | labelled x | mapErr x | withCtx x | mapCtx x
      | withState x | memoized x | boxed x =>
    exact G.guarded_seen cd x
  case collect it | collectExactly it | iterP it => exact It.guarded_seen cd it
  case then_ x y | ignoreThen x y | thenIgnore x y | paddedBy x y | or_ x y | andIs x y | recoverVia x y
      | ignoreWithCtx x y | thenWithCtx x y =>
    exact and_true_intro (G.guarded_seen cd _) (G.guarded_seen cd _)
  case foldl x it | foldlWith x it => exact and_true_intro (G.guarded_seen cd x) (It.guarded_seen cd it)
  case foldr it y | foldrWith it y => exact and_true_intro (It.guarded_seen cd it) (G.guarded_seen cd y)
  case delimitedBy x y z | recoverSkipUntil x y z _ | recoverSkipRetry x y z =>
    exact and_true_intro (G.guarded_seen cd _) (and_true_intro (G.guarded_seen cd _) (G.guarded_seen cd _))
  case group gs | groupArr gs => exact guardedS_seen cd gs
  case choice gs => exact guardedL_seen cd gs
theorem It.guarded_seen (cd : Nat → Bool) : ∀ it : It, it.guarded cd true = true := by
  intro it
  cases it
  case repeated x _ _ | orNotIt x | intoIter x => exact G.guarded_seen cd x
  case enumerate it | mapIt it | configureRep it | tryConfigureRep it => exact It.guarded_seen cd it
  case separatedBy x y _ _ _ _ => exact and_true_intro (G.guarded_seen cd x) (G.guarded_seen cd y)
  case thenIt x y => exact and_true_intro (It.guarded_seen cd x) (It.guarded_seen cd y)
theorem guardedL_seen (cd : Nat → Bool) : ∀ gs : List G, guardedL cd true gs = true
  | [] => rfl
  | g :: gs => and_true_intro (G.guarded_seen cd g) (guardedL_seen cd gs)
theorem guardedS_seen (cd : Nat → Bool) : ∀ gs : List G, guardedS cd true gs = true
  | [] => rfl
  | g :: gs => and_true_intro (G.guarded_seen cd g) (guardedS_seen cd gs)
end


/-! ## 2. two instances of the analysis of the reading's outcomes

  ### (a) the panic sites: the "can't fail" `unwrap()`s never fire -/

/-- a panic, if any, is one of the spec's panic sites -/
def SOut.PS (o : SOut) : Prop := o.Meets SpecPanic fun _ => True
def SItOut.PS (o : SItOut) : Prop := o.Meets SpecPanic (fun _ => True) fun _ => True
def SMkOut.PS (o : SMkOut) : Prop := o.Meets SpecPanic fun _ => True

@[simp] theorem SOut.ps_oof : SOut.oof.PS ↔ True := Iff.rfl
@[simp] theorem SItOut.ps_oof : SItOut.oof.PS ↔ True := Iff.rfl
@[simp] theorem SMkOut.ps_oof : SMkOut.oof.PS ↔ True := Iff.rfl

theorem SOut.PS.andThen {o : SOut} {k} (h : o.PS) (hk : ∀ v s em, (k v s em).PS) : (o.andThen k).PS :=
  SOut.Meets.andThen h fun v s em _ => hk v s em

section panicSites
variable {env : Env} {P : SRunner} {N : SNextRunner} {K : SMkRunner}

def PPS (P : SRunner) (env : Env) : Prop := ∀ g s ctx, (P env g s ctx).PS
def NPS (N : SNextRunner) (env : Env) : Prop := ∀ it s ctx ist, (N env it s ctx ist).PS
def KPS (K : SMkRunner) (env : Env) : Prop := ∀ it s ctx, (K env it s ctx).PS

theorem grade_true (env : Env) : Grade env True fun _ _ _ => True :=
  ⟨fun _ => trivial, fun _ _ => trivial, fun _ _ => trivial, fun _ => trivial, fun _ _ => trivial⟩

theorem claim_ps (hP : PPS P env) (hN : NPS N env) (hK : KPS K env) :
    Claim noCalls env True SpecPanic (fun _ _ _ => True) P N K :=
  ⟨fun g s ctx _ => hP g s ctx, fun it s ctx ist _ => hN it s ctx ist, fun it s ctx _ => hK it s ctx,
    fun _ _ _ _ _ _ _ _ _ _ _ _ _ => trivial, fun _ _ _ h => nomatch h⟩

theorem pegStep_ps (hP : PPS P env) (hN : NPS N env) (hK : KPS K env) (L : Nat) : PPS (pegStep P N K L) env :=
  fun g s ctx =>
    pegStep_meets (grade_true env) (fun _ h => h) (fun _ _ => .inl trivial) (claim_ps hP hN hK) L g s ctx (.inl trivial)

theorem pegNext_ps (hP : PPS P env) (hN : NPS N env) (hK : KPS K env) : NPS (pegNext P N K) env :=
  fun it s ctx ist => pegNext_meets (grade_true env) (fun _ h => h) (claim_ps hP hN hK) it s ctx ist (.inl trivial)

theorem pegMk_ps (hP : PPS P env) (hK : KPS K env) : KPS (pegMk P K) env :=
  fun it s ctx =>
    pegMk_meets (cd := noCalls) (grade_true env) (fun g s ctx _ => hP g s ctx) (fun it s ctx _ => hK it s ctx) it s ctx
      (.inl trivial)

theorem peg_ps_all (env : Env) (n : Nat) : PPS (peg n) env ∧ NPS (pegNext' n) env ∧ KPS (pegMk' n) env :=
  have H := claim_all (grade_true env) (fun _ h => h) (fun _ _ => .inl trivial) (cdefs_noCalls env) n
  ⟨fun g s ctx => H.p g s ctx (.inl trivial), fun it s ctx ist => H.n it s ctx ist (.inl trivial),
    fun it s ctx => H.k it s ctx (.inl trivial)⟩

end panicSites


/-- **C20 (1), spec side.** the only panics of the reference semantics are `todo!()`, the no-progress debug
    assertions, ill-typed grammars and undefined references -/
theorem peg_panic_sites (n : Nat) (env : Env) (g : G) (s : SS) (ctx : Val) {w : Nat} :
    peg n env g s ctx = .panic w → w = pTodo ∨ w = pNoProgress ∨ w = pIllTyped ∨ w = pUndefined := by
  intro h
  have := (peg_ps_all env n).1 g s ctx
  rwa [h] at this

theorem run_panic_peg {n : Nat} {env : Env} {m : Mode} {g : G} {st : St} (hm : env.memoOn = false) {w : Nat}
    (h : run n env m g st = .panic w) : peg n env g st.ss st.ctx = .panic w := by
  have hr := run_refines n env m g st hm
  rw [h] at hr
  cases hp : peg n env g st.ss st.ctx <;> rw [hp] at hr <;> simp only [Refines] at hr
  rw [hr]

theorem run_oof_peg {n : Nat} {env : Env} {m : Mode} {g : G} {st : St} (hm : env.memoOn = false)
    (h : run n env m g st = .oof) : peg n env g st.ss st.ctx = .oof := by
  have hr := run_refines n env m g st hm
  rw [h] at hr
  cases hp : peg n env g st.ss st.ctx <;> rw [hp] at hr <;> simp only [Refines] at hr

theorem run_panic_sites (n : Nat) (env : Env) (m : Mode) (g : G) (st : St) (hm : env.memoOn = false) {w : Nat} :
    run n env m g st = .panic w → w = pTodo ∨ w = pNoProgress ∨ w = pIllTyped ∨ w = pUndefined :=
  fun h => peg_panic_sites n env g _ _ (run_panic_peg hm h)

/-- **C20 (1).** neither "can't fail" `unwrap()` on the pending error ever fires -/
theorem run_no_unwrap_panic (n : Nat) (env : Env) (m : Mode) (g : G) (st : St) (hm : env.memoOn = false) :
    run n env m g st ≠ .panic pUnwrapRecovery ∧ run n env m g st ≠ .panic pUnwrapMapErr := by
  constructor <;> intro h <;> have := run_panic_sites n env m g st hm h <;>
    simp [pUnwrapRecovery, pUnwrapMapErr, pTodo, pNoProgress, pIllTyped, pUndefined] at this

theorem parseTop_panic_run {n : Nat} {env : Env} {m : Mode} {g : G} {w : Nat} :
    parseTop n env m g = .panic w → run n env m (.thenIgnore g .end_) St.init = .panic w := by
  unfold parseTop
  cases run n env m (.thenIgnore g .end_) St.init <;> simp

theorem parseTop_no_unwrap_panic (n : Nat) (env : Env) (m : Mode) (g : G) (hm : env.memoOn = false) :
    parseTop n env m g ≠ .panic pUnwrapRecovery ∧ parseTop n env m g ≠ .panic pUnwrapMapErr := by
  have := run_no_unwrap_panic n env m (.thenIgnore g .end_) St.init hm
  exact ⟨fun h => this.1 (parseTop_panic_run h), fun h => this.2 (parseTop_panic_run h)⟩

/-! ### (b) soundness of `consumes` / `advances` on the reference semantics -/

/-- `s'` is at or after `s`; if after, inside the input (whatever the start position); strictly after when `c` -/
def Lt (env : Env) (c : Bool) (s s' : SS) : Prop :=
  s.pos ≤ s'.pos ∧ (s.pos < s'.pos → s'.pos ≤ env.toks.length) ∧ (c = true → s.pos < s'.pos)

theorem grade_lt (env : Env) : Grade env True (Lt env) where
  refl s := ⟨Nat.le_refl _, fun h => absurd h (Nat.lt_irrefl _), nofun⟩
  trans := by
    intro b c s s1 s2 h1 h2
    refine ⟨Nat.le_trans h1.1 h2.1, fun h => ?_, fun h => ?_⟩
    · rcases Nat.lt_or_ge s1.pos s2.pos with hlt | hge
      · exact h2.2.1 hlt
      · have : s1.pos = s2.pos := Nat.le_antisymm h2.1 hge
        rw [← this]; exact h1.2.1 (by omega)
    · rcases Bool.or_eq_true_iff.1 h with h | h
      · exact Nat.lt_of_lt_of_le (h1.2.2 h) h2.1
      · exact Nat.lt_of_le_of_lt h1.1 (h2.2.2 h)
  weak hc h := ⟨h.1, h.2.1, fun x => h.2.2 (hc x)⟩
  tok := by
    intro s t h
    obtain ⟨hlt, _⟩ := List.getElem?_eq_some_iff.1 h
    exact ⟨Nat.le_succ _, fun _ => hlt, fun _ => Nat.lt_succ_self _⟩
  ws _ h := h

theorem okTL {gs : List G} : OKL True gs := Or.inl trivial

/-- what the engine of §3 assumes of the three runners: positions move on, strictly where `consumes` / `advances` -/
abbrev CHyp (cd : Nat → Bool) (env : Env) (P : SRunner) (N : SNextRunner) (K : SMkRunner) : Prop :=
  Claim cd env True (fun _ => True) (Lt env) P N K

theorem chyp_all {cd : Nat → Bool} (env : Env) (hcd : CDefs cd env) (n : Nat) :
    CHyp cd env (peg n) (pegNext' n) (pegMk' n) :=
  claim_all (grade_lt env) (fun _ _ => trivial) (fun _ _ => .inl trivial) hcd n

/-- **soundness of `consumes`.** -/
theorem peg_consumes {cd : Nat → Bool} (n : Nat) (env : Env) (hcd : CDefs cd env) (g : G) (s : SS) (ctx : Val)
    {v s' em} (hc : g.consumes cd = true) : peg n env g s ctx = .ok v s' em → s.pos < s'.pos := by
  intro h
  have := (chyp_all env hcd n).p g s ctx (.inl trivial)
  rw [h] at this
  exact this.2.2 hc

/-- **soundness of `advances`.** -/
theorem pegNext'_advances {cd : Nat → Bool} (n : Nat) (env : Env) (hcd : CDefs cd env) (it : It) (s : SS) (ctx : Val)
    (ist : ItSt) {v s' ist' em} (hc : it.advances cd = true) :
    pegNext' n env it s ctx ist = .some v s' ist' em → s.pos < s'.pos := by
  intro h
  have := (chyp_all env hcd n).n it s ctx ist (.inl trivial)
  rw [h] at this
  exact this.2.2 hc


/-! ## 3. the engine: no panic for well-formed grammars, no `oof` within a budget for guarded ones

  `T` says whether termination is claimed as well. `Good T o`: `o` is not a panic and, when `T`, not out of fuel.
  The budget of a node run at state `s` with flag `b` ("a token has been consumed since the body was entered") is
  `depth + μ b s + |input| + 1`: `μ` is any measure that a consuming sub-parser pays for the flag and a guarded call
  pays `D`, the bound on the bodies' depth, from (`Budget`). `μ = 0` for call-free grammars; the weight `wt` of
  Guarded.lean for guarded tables. -/

/-- the iterator state is one that `make_iter` / `next` of this iterator produce -/
inductive It.Fits : It → ItSt → Prop
  | repeated {a lo hi n} : Fits (.repeated a lo hi) (.cnt n)
  | separatedBy {a sep lo hi lead trail n} : Fits (.separatedBy a sep lo hi lead trail) (.cnt n)
  | enumerate {inner k st} : Fits inner st → Fits (.enumerate inner) (.enum k st)
  | orNotIt {a b} : Fits (.orNotIt a) (.fin b)
  | intoIter {a vs} : Fits (.intoIter a) (.into vs)
  | thenFst {a b sa} : Fits a sa → Fits (.thenIt a b) (.thn sa none)
  | thenSnd {a b sa sb} : Fits a sa → Fits b sb → Fits (.thenIt a b) (.thn sa (some sb))
  | mapIt {f inner st} : Fits inner st → Fits (.mapIt f inner) st
  | configureRep {c a lo hi n clo chi} : Fits (.configureRep c (.repeated a lo hi)) (.cfg (.cnt n) clo chi)
  | tryConfigureRep {c a lo hi n clo chi} : Fits (.tryConfigureRep c (.repeated a lo hi)) (.cfg (.cnt n) clo chi)

def SOut.Good (T : Prop) : SOut → Prop
  | .panic _ => False
  | .oof => ¬T
  | _ => True

def SItOut.Good (T : Prop) (it : It) : SItOut → Prop
  | .some _ _ ist _ => it.Fits ist
  | .done _ ist _ => it.Fits ist
  | .fail => True
  | .panic _ => False
  | .oof => ¬T

def SMkOut.Good (T : Prop) (it : It) : SMkOut → Prop
  | .ok ist _ _ => it.Fits ist
  | .fail => True
  | .panic _ => False
  | .oof => ¬T

theorem SOut.Plain.good {T : Prop} {o : SOut} (h : o.Plain) : o.Good T := by
  cases o <;> first | trivial | exact h.elim

/-- admissibility, on the values `w t g` of `wf`, `termOk`, `guarded b` for a piece of syntax of depth `d` run where the
    budget of the position is `m`, with fuel `n`: well-formed and, when `T`, also `termOk`, guarded and within the fuel.
    The syntactic predicates compute on a constructor, so admissibility of the children of a node follows from the few
    facts about Booleans and numbers below, one per shape of node. -/
structure Ok (T : Prop) (w t g : Bool) (d m n : Nat) : Prop where
  wf : w = true
  tm : T → t = true ∧ g = true ∧ d + m ≤ n

namespace Ok
variable {T : Prop} {w w₁ w₂ w₃ t t₁ t₂ t₃ g g₁ g₂ g₃ c : Bool} {d d₁ d₂ d₃ d' m m' n : Nat}

theorem mono (h : Ok T w t g d m n) (hle : d' + m' ≤ d + m) : Ok T w t g d' m' n :=
  ⟨h.wf, fun x => ⟨(h.tm x).1, (h.tm x).2.1, Nat.le_trans hle (h.tm x).2.2⟩⟩

theorem weak (h : Ok T w t g (d + 1) m n) : Ok T w t g d m n := h.mono (by omega)

theorem pred (h : Ok T w t g (d + 1) m (n + 1)) : Ok T w t g d m n :=
  ⟨h.wf, fun x => ⟨(h.tm x).1, (h.tm x).2.1, by have := (h.tm x).2.2; omega⟩⟩

theorem zero (h : Ok T w t g d (m + 1) 0) : ¬T := fun x => by have := (h.tm x).2.2; omega

theorem and (h : Ok T (w₁ && w₂) (t₁ && t₂) (g₁ && g₂) (max d₁ d₂) m n) : Ok T w₁ t₁ g₁ d₁ m n ∧ Ok T w₂ t₂ g₂ d₂ m n := by
  obtain ⟨hw, ht⟩ := h
  simp only [Bool.and_eq_true] at hw ht
  exact ⟨⟨hw.1, fun x => ⟨(ht x).1.1, (ht x).2.1.1, by have := (ht x).2.2; omega⟩⟩,
    ⟨hw.2, fun x => ⟨(ht x).1.2, (ht x).2.1.2, by have := (ht x).2.2; omega⟩⟩⟩

theorem and_wf (h : Ok T (w && c) t g d m n) : Ok T w t g d m n ∧ c = true :=
  ⟨⟨(Bool.and_eq_true_iff.1 h.wf).1, h.tm⟩, (Bool.and_eq_true_iff.1 h.wf).2⟩

theorem and_tm (h : Ok T w (t && c) g d m n) : Ok T w t g d m n ∧ (T → c = true) :=
  ⟨⟨h.wf, fun x => ⟨(Bool.and_eq_true_iff.1 (h.tm x).1).1, (h.tm x).2⟩⟩, fun x => (Bool.and_eq_true_iff.1 (h.tm x).1).2⟩

/-- `delimited_by`: `wf`, `termOk` list the item first, `guarded` follows the order of evaluation -/
theorem delim (h : Ok T (w₁ && (w₂ && w₃)) (t₁ && (t₂ && t₃)) (g₂ && (g₁ && g₃)) (max d₁ (max d₂ d₃)) m n) :
    Ok T w₂ t₂ g₂ d₂ m n ∧ Ok T w₁ t₁ g₁ d₁ m n ∧ Ok T w₃ t₃ g₃ d₃ m n := by
  obtain ⟨hw, ht⟩ := h
  simp only [Bool.and_eq_true] at hw ht
  exact ⟨⟨hw.2.1, fun x => ⟨(ht x).1.2.1, (ht x).2.1.1, by have := (ht x).2.2; omega⟩⟩,
    ⟨hw.1, fun x => ⟨(ht x).1.1, (ht x).2.1.2.1, by have := (ht x).2.2; omega⟩⟩,
    ⟨hw.2.2, fun x => ⟨(ht x).1.2.2, (ht x).2.1.2.2, by have := (ht x).2.2; omega⟩⟩⟩

/-- `padded_by`, likewise: the padding first -/
theorem padded (h : Ok T (w₁ && w₂) (t₁ && t₂) (g₂ && g₁) (max d₁ d₂) m n) : Ok T w₂ t₂ g₂ d₂ m n ∧ Ok T w₁ t₁ g₁ d₁ m n := by
  obtain ⟨hw, ht⟩ := h
  simp only [Bool.and_eq_true] at hw ht
  exact ⟨⟨hw.2, fun x => ⟨(ht x).1.2, (ht x).2.1.1, by have := (ht x).2.2; omega⟩⟩,
    ⟨hw.1, fun x => ⟨(ht x).1.1, (ht x).2.1.2, by have := (ht x).2.2; omega⟩⟩⟩

end Ok

/-- what the engine asks of a budget `μ b s` that is to pay for calls of bodies of depth at most `D` -/
structure Budget (env : Env) (D : Nat) (μ : Bool → SS → Nat) : Prop where
  mono : ∀ {b : Bool} {s s1 : SS}, s.pos ≤ s1.pos → μ b s1 ≤ μ b s
  seen : ∀ {b : Bool} {s s1 : SS}, s.pos < s1.pos → s1.pos ≤ env.toks.length → μ true s1 ≤ μ b s
  call : ∀ s, μ false s + D ≤ μ true s

theorem Budget.step {env : Env} {D : Nat} {μ : Bool → SS → Nat} (hμ : Budget env D μ) {b c : Bool} {s s1 : SS}
    (h1 : s.pos ≤ s1.pos) (h2 : c = true → s.pos < s1.pos ∧ s1.pos ≤ env.toks.length) : μ (b || c) s1 ≤ μ b s := by
  cases c with
  | false => rw [Bool.or_false]; exact hμ.mono h1
  | true => rw [Bool.or_true]; exact hμ.seen (h2 rfl).1 (h2 rfl).2

theorem budget_zero (env : Env) : Budget env 0 (fun _ _ => 0) :=
  ⟨fun _ => Nat.le_refl _, fun _ _ => Nat.le_refl _, fun _ => Nat.le_refl _⟩

/-- `adm h`: admissibility of a child from that (`h`) of the node, by unfolding the syntactic predicates with `simp`. The engine
    uses the lemmas about Booleans `Ok.pred`, `Ok.and`, …: naming the recursive predicates as `simp` arguments makes Lean generate their equation lemmas, one per constructor. -/
macro "adm " h:ident : tactic => `(tactic| (
  simp only [Adm, AdmI, AdmL] at $h:ident ⊢
  refine ⟨?_, fun ht => ?_⟩
  · have h1 := ($h).1
    simp only [G.wf, It.wf, wfL, Bool.and_eq_true] at h1 ⊢
    simp [h1]
  · have h2 := ($h).2 ht
    simp only [G.termOk, It.termOk, termOkL, G.depth, It.depth, depthL, Bool.and_eq_true] at h2 ⊢
    exact ⟨by simp [h2], by omega⟩))

section
variable (cd : Nat → Bool) (T : Prop) (nd : Nat) (μ : Bool → SS → Nat)

/-- admissible at fuel `n`, flag `b` and state `s`: the budget of the position is `μ b s + |input| + 1` -/
abbrev Adm (env : Env) (n : Nat) (b : Bool) (s : SS) (g : G) : Prop :=
  Ok T (g.wf cd nd) (g.termOk cd) (g.guarded cd b) g.depth (μ b s + env.toks.length + 1) n
abbrev AdmI (env : Env) (n : Nat) (b : Bool) (s : SS) (it : It) : Prop :=
  Ok T (it.wf cd nd) (it.termOk cd) (it.guarded cd b) it.depth (μ b s + env.toks.length + 1) n
/-- alternatives -/
abbrev AdmL (env : Env) (n : Nat) (b : Bool) (s : SS) (gs : List G) : Prop :=
  Ok T (wfL cd nd gs) (termOkL cd gs) (guardedL cd b gs) (depthL gs) (μ b s + env.toks.length + 1) n
/-- a sequence -/
abbrev AdmS (env : Env) (n : Nat) (b : Bool) (s : SS) (gs : List G) : Prop :=
  Ok T (wfL cd nd gs) (termOkL cd gs) (guardedS cd b gs) (depthL gs) (μ b s + env.toks.length + 1) n

/-- with fuel `n`, the runner is good on admissible syntax -/
def PG (n : Nat) (P : SRunner) (env : Env) : Prop :=
  ∀ g s ctx b, Adm cd T nd μ env n b s g → (P env g s ctx).Good T
def NG (n : Nat) (N : SNextRunner) (env : Env) : Prop :=
  ∀ it s ctx ist b, AdmI cd T nd μ env n b s it → it.Fits ist → (N env it s ctx ist).Good T it
def KG (n : Nat) (K : SMkRunner) (env : Env) : Prop :=
  ∀ it s ctx b, AdmI cd T nd μ env n b s it → (K env it s ctx).Good T it

end

/-- all that is known about one parser call -/
def PStep (T : Prop) (env : Env) (c : Bool) (s : SS) : SOut → Prop
  | .ok _ s' _ => s.pos ≤ s'.pos ∧ (c = true → s.pos < s'.pos ∧ s'.pos ≤ env.toks.length)
  | .fail => True
  | .panic _ => False
  | .oof => ¬T

/-- all that is known about one `next` call -/
def NStep (cd : Nat → Bool) (T : Prop) (env : Env) (it : It) (s : SS) : SItOut → Prop
  | .some _ s' ist' _ => it.Fits ist' ∧ s.pos ≤ s'.pos ∧
      ((it.advances cd) = true → s.pos < s'.pos ∧ s'.pos ≤ env.toks.length)
  | .done s' ist' _ => it.Fits ist' ∧ s.pos ≤ s'.pos
  | .fail => True
  | .panic _ => False
  | .oof => ¬T

section good
variable {cd : Nat → Bool} {env : Env} {P : SRunner} {N : SNextRunner} {K : SMkRunner} {T : Prop} {nd D n : Nat}
  {μ : Bool → SS → Nat}

theorem pstep (H : CHyp cd env P N K) (hP : PG cd T nd μ n P env) {g : G} {b : Bool} {s : SS}
    (hg : Adm cd T nd μ env n b s g) (ctx : Val) : PStep T env (g.consumes cd) s (P env g s ctx) := by
  have h1 := hP g s ctx b hg
  have h2 := H.p g s ctx (.inl trivial)
  generalize P env g s ctx = o at h1 h2
  cases o with
  | ok v s' em => exact ⟨h2.1, fun hc => ⟨h2.2.2 hc, h2.2.1 (h2.2.2 hc)⟩⟩
  | _ => exact h1

theorem nstep (H : CHyp cd env P N K) (hN : NG cd T nd μ n N env) {it : It} {b : Bool} {s : SS}
    (hi : AdmI cd T nd μ env n b s it) (ctx : Val) {ist : ItSt} (hf : it.Fits ist) :
    NStep cd T env it s (N env it s ctx ist) := by
  have h1 := hN it s ctx ist b hi hf
  have h2 := H.n it s ctx ist (.inl trivial)
  generalize N env it s ctx ist = o at h1 h2
  cases o with
  | some v s' ist' em => exact ⟨h1, h2.1, fun hc => ⟨h2.2.2 hc, h2.2.1 (h2.2.2 hc)⟩⟩
  | done s' ist' em => exact ⟨h1, h2.1⟩
  | _ => exact h1

/-- sequencing: the continuation runs at a position of smaller (or equal) budget, with the upgraded flag -/
theorem PG.andThen (hP : PG cd T nd μ n P env) (H : CHyp cd env P N K) (hμ : Budget env D μ) {a : G} {b : Bool} {s : SS}
    {ctx : Val} (ha : Adm cd T nd μ env n b s a) {k : Val → SS → List Emis → SOut}
    (hk : ∀ v s1 em, s.pos ≤ s1.pos → μ (b || a.consumes cd) s1 ≤ μ b s → (k v s1 em).Good T) :
    ((P env a s ctx).andThen k).Good T := by
  have h := pstep H hP ha ctx
  generalize P env a s ctx = o at h
  cases o with
  | ok v s1 em => exact hk v s1 em h.1 (hμ.step h.1 h.2)
  | _ => exact h

theorem KG.andThen (hK : KG cd T nd μ n K env) (H : CHyp cd env P N K) (hμ : Budget env D μ) {it : It} {b : Bool} {s : SS}
    {ctx : Val} (hi : AdmI cd T nd μ env n b s it) {k : ItSt → SS → List Emis → SOut}
    (hk : ∀ ist s1 em, it.Fits ist → μ b s1 ≤ μ b s → (k ist s1 em).Good T) :
    (match K env it s ctx with
      | .ok ist s1 em => k ist s1 em
      | .fail => .fail
      | .panic w => .panic w
      | .oof => .oof).Good T := by
  have h1 := hK it s ctx b hi
  have h2 := H.k it s ctx (.inl trivial)
  generalize K env it s ctx = o at h1 h2
  cases o with
  | ok ist s1 em => exact hk ist s1 em h1 (hμ.mono h2.1)
  | _ => exact h1

theorem sChoice_cons_good {g : G} {gs : List G} {s : SS} {ctx : Val} (h : (P env g s ctx).Good T)
    (hgs : (sChoice P env ctx s gs).Good T) : (sChoice P env ctx s (g :: gs)).Good T := by
  rw [sChoice]
  generalize P env g s ctx = o at h
  cases o with
  | ok v s' em => trivial
  | fail => exact hgs
  | _ => exact h

theorem sChoice_good (hP : PG cd T nd μ n P env) (ctx : Val) (s : SS) (b : Bool) :
    ∀ gs, AdmL cd T nd μ env n b s gs → (sChoice P env ctx s gs).Good T := by
  intro gs
  induction gs with
  | nil => intro _; trivial
  | cons g gs ih => intro hl; exact sChoice_cons_good (hP g s ctx b hl.and.1) (ih hl.and.2)

theorem sGroup_good (H : CHyp cd env P N K) (hμ : Budget env D μ) (hP : PG cd T nd μ n P env) (ctx : Val) :
    ∀ gs s acc em b, AdmS cd T nd μ env n b s gs → (sGroup P env ctx gs s acc em).Good T := by
  intro gs
  induction gs with
  | nil => intros; trivial
  | cons g gs ih =>
    intro s acc em b hl
    have h := pstep H hP hl.and.1 ctx
    rw [sGroup]
    generalize P env g s ctx = o at h
    cases o with
    | ok v s' em' => exact ih _ _ _ (b || g.consumes cd) (hl.and.2.mono (by have := hμ.step (b := b) h.1 h.2; omega))
    | fail => trivial
    | _ => exact h

theorem loopOk_advances {it : It} (hl : (it.loopOk cd) = true) (h : it.nonconsOk = false) : (it.advances cd) = true := by
  rw [It.loopOk, h] at hl; exact hl

theorem sCollectLoop_good (H : CHyp cd env P N K) (hμ : Budget env D μ) (hN : NG cd T nd μ n N env) (ctx : Val) (it : It)
    (k : CollKind) (b : Bool) (hl : (it.loopOk cd) = true) (hT : T → (it.advances cd) = true) :
    ∀ fuel s ist acc i em, AdmI cd T nd μ env n b s it → it.Fits ist → (T → env.toks.length - s.pos + 1 ≤ fuel) →
      (sCollectLoop N env ctx it k fuel s ist acc i em).Good T := by
  intro fuel
  induction fuel with
  | zero => intro s ist acc i em _ _ hfu ht; have := hfu ht; omega
  | succ fuel ih =>
    intro s ist acc i em hi hf hfu
    have h := nstep H hN hi ctx hf
    rw [sCollectLoop]
    generalize N env it s ctx ist = o at h
    cases o with
    | some v s' ist' em' =>
      obtain ⟨hf', hle, hadv⟩ := h
      dsimp only
      split
      · next hc =>
        simp only [Bool.and_eq_true, Bool.not_eq_true', beq_iff_eq, decide_eq_true_eq] at hc
        have := (hadv (loopOk_advances hl hc.1.1)).1
        omega
      · exact ih _ _ _ _ _ (hi.mono (by have := hμ.mono (b := b) hle; omega)) hf'
          fun ht => by have := hadv (hT ht); have := hfu ht; omega
    | done s' ist' em' => trivial
    | fail => trivial
    | _ => exact h

theorem sCollectExactlyLoop_good (H : CHyp cd env P N K) (hμ : Budget env D μ) (hN : NG cd T nd μ n N env) (ctx : Val)
    (it : It) (b : Bool) :
    ∀ m s ist acc em, AdmI cd T nd μ env n b s it → it.Fits ist → (sCollectExactlyLoop N env ctx it m s ist acc em).Good T := by
  intro m
  induction m with
  | zero => intros; trivial
  | succ m ih =>
    intro s ist acc em hi hf
    have h := nstep H hN hi ctx hf
    rw [sCollectExactlyLoop]
    generalize N env it s ctx ist = o at h
    cases o with
    | some v s' ist' em' => exact ih _ _ _ _ (hi.mono (by have := hμ.mono (b := b) h.2.1; omega)) h.1
    | done s' ist' em' => trivial
    | fail => trivial
    | _ => exact h

theorem sFoldlLoop_good (H : CHyp cd env P N K) (hμ : Budget env D μ) (hN : NG cd T nd μ n N env) (ctx : Val) (it : It)
    (f : Val → Val → SS → Val) (b : Bool) (hl : (it.loopOk cd) = true) (hT : T → (it.advances cd) = true) :
    ∀ fuel s ist acc em, AdmI cd T nd μ env n b s it → it.Fits ist → (T → env.toks.length - s.pos + 1 ≤ fuel) →
      (sFoldlLoop N env ctx it f fuel s ist acc em).Good T := by
  intro fuel
  induction fuel with
  | zero => intro s ist acc em _ _ hfu ht; have := hfu ht; omega
  | succ fuel ih =>
    intro s ist acc em hi hf hfu
    have h := nstep H hN hi ctx hf
    rw [sFoldlLoop]
    generalize N env it s ctx ist = o at h
    cases o with
    | some v s' ist' em' =>
      obtain ⟨hf', hle, hadv⟩ := h
      dsimp only
      split
      · next hc =>
        simp only [Bool.and_eq_true, Bool.not_eq_true', beq_iff_eq] at hc
        have := (hadv (loopOk_advances hl hc.1)).1
        omega
      · exact ih _ _ _ _ (hi.mono (by have := hμ.mono (b := b) hle; omega)) hf'
          fun ht => by have := hadv (hT ht); have := hfu ht; omega
    | done s' ist' em' => trivial
    | fail => trivial
    | _ => exact h

/-- what `sFoldrCollect` returns (the position it stops at is at or after `s0`) -/
def FoldrGood (T : Prop) (s0 : SS) : (Option (List (Val × Nat) × SS × List Emis)) ⊕ SOut → Prop
  | .inl (some (_, s2, _)) => s0.pos ≤ s2.pos
  | .inl none => False
  | .inr o => o.Good T

theorem sFoldrCollect_good (H : CHyp cd env P N K) (hμ : Budget env D μ) (hN : NG cd T nd μ n N env) (ctx : Val) (it : It)
    (b : Bool) (hl : (it.loopOk cd) = true) (hT : T → (it.advances cd) = true) (s0 : SS) :
    ∀ fuel s ist acc em, AdmI cd T nd μ env n b s it → it.Fits ist → (T → env.toks.length - s.pos + 1 ≤ fuel) →
      s0.pos ≤ s.pos → FoldrGood T s0 (sFoldrCollect N env ctx it fuel s ist acc em) := by
  intro fuel
  induction fuel with
  | zero => intro s ist acc em _ _ hfu _ ht; have := hfu ht; omega
  | succ fuel ih =>
    intro s ist acc em hi hf hfu h0
    have h := nstep H hN hi ctx hf
    rw [sFoldrCollect]
    generalize N env it s ctx ist = o at h
    cases o with
    | some v s' ist' em' =>
      obtain ⟨hf', hle, hadv⟩ := h
      dsimp only
      split
      · next hc =>
        simp only [Bool.and_eq_true, Bool.not_eq_true', beq_iff_eq] at hc
        have := (hadv (loopOk_advances hl hc.1)).1
        omega
      · exact ih _ _ _ _ (hi.mono (by have := hμ.mono (b := b) hle; omega)) hf'
          (fun ht => by have := hadv (hT ht); have := hfu ht; omega) (Nat.le_trans h0 hle)
    | done s' ist' em' => exact Nat.le_trans h0 h.2
    | fail => trivial
    | _ => exact h

theorem sRepeatFast_good (H : CHyp cd env P N K) (hμ : Budget env D μ) (hP : PG cd T nd μ n P env) (ctx : Val) (a : G)
    (b : Bool) (hc : (a.consumes cd) = true) :
    ∀ fuel s em, Adm cd T nd μ env n b s a → (T → env.toks.length - s.pos + 1 ≤ fuel) →
      (sRepeatFast P env ctx a fuel s em).Good T := by
  intro fuel
  induction fuel with
  | zero => intro s em _ hfu ht; have := hfu ht; omega
  | succ fuel ih =>
    intro s em ha hfu
    have h := pstep H hP ha ctx
    rw [sRepeatFast]
    generalize P env a s ctx = o at h
    cases o with
    | ok v s' em' =>
      have := h.2 hc
      dsimp only
      split
      · next hc' => simp only [beq_iff_eq] at hc'; omega
      · exact ih _ _ (ha.mono (by have := hμ.mono (b := b) h.1; omega)) fun ht => by have := hfu ht; omega
    | fail => trivial
    | _ => exact h

theorem sIterLoop_good (H : CHyp cd env P N K) (hμ : Budget env D μ) (hN : NG cd T nd μ n N env) (ctx : Val) (it : It)
    (ap : Bool) (b : Bool) (hap : ap = true → (it.advances cd) = true) (hT : T → (it.advances cd) = true) :
    ∀ fuel s ist em, AdmI cd T nd μ env n b s it → it.Fits ist → (T → env.toks.length - s.pos + 1 ≤ fuel) →
      (sIterLoop N env ctx it ap fuel s ist em).Good T := by
  intro fuel
  induction fuel with
  | zero => intro s ist em _ _ hfu ht; have := hfu ht; omega
  | succ fuel ih =>
    intro s ist em hi hf hfu
    have h := nstep H hN hi ctx hf
    rw [sIterLoop]
    generalize N env it s ctx ist = o at h
    cases o with
    | some v s' ist' em' =>
      obtain ⟨hf', hle, hadv⟩ := h
      dsimp only
      split
      · next hc =>
        simp only [Bool.and_eq_true, beq_iff_eq] at hc
        have := (hadv (hap hc.1)).1
        omega
      · exact ih _ _ _ (hi.mono (by have := hμ.mono (b := b) hle; omega)) hf'
          fun ht => by have := hadv (hT ht); have := hfu ht; omega
    | done s' ist' em' => trivial
    | fail => trivial
    | _ => exact h

theorem sSkipUntil_good (H : CHyp cd env P N K) (hμ : Budget env D μ) (hP : PG cd T nd μ n P env) (ctx : Val)
    (skip until_ : G) (fb : Val) (b : Bool) (hT : T → (skip.consumes cd) = true) :
    ∀ fuel s em, Adm cd T nd μ env n b s skip → Adm cd T nd μ env n b s until_ →
      (T → env.toks.length - s.pos + 1 ≤ fuel) → (sSkipUntil P env ctx skip until_ fb fuel s em).Good T := by
  intro fuel
  induction fuel with
  | zero => intro s em _ _ hfu ht; have := hfu ht; omega
  | succ fuel ih =>
    intro s em hs hu hfu
    have h1 := hP until_ s ctx b hu
    have h2 := pstep H hP hs ctx
    rw [sSkipUntil]
    generalize P env until_ s ctx = o1 at h1
    generalize P env skip s ctx = o2 at h2
    cases o1 with
    | ok v s1 em1 => trivial
    | fail =>
      cases o2 with
      | ok v s2 em2 =>
        have hw : μ b s2 ≤ μ b s := hμ.mono h2.1
        exact ih _ _ (hs.mono (by omega)) (hu.mono (by omega)) fun ht => by have := h2.2 (hT ht); have := hfu ht; omega
      | fail => trivial
      | _ => exact h2
    | _ => exact h1

theorem sSkipRetry_good (H : CHyp cd env P N K) (hμ : Budget env D μ) (hP : PG cd T nd μ n P env) (ctx : Val)
    (a skip until_ : G) (b : Bool) (hT : T → (skip.consumes cd) = true) :
    ∀ fuel s em, Adm cd T nd μ env n b s a → Adm cd T nd μ env n b s skip → Adm cd T nd μ env n b s until_ →
      (T → env.toks.length - s.pos + 1 ≤ fuel) → (sSkipRetry P env ctx a skip until_ fuel s em).Good T := by
  intro fuel
  induction fuel with
  | zero => intro s em _ _ _ hfu ht; have := hfu ht; omega
  | succ fuel ih =>
    intro s em ha hs hu hfu
    have h1 := hP until_ s ctx b hu
    have h2 := pstep H hP hs ctx
    rw [sSkipRetry]
    generalize P env until_ s ctx = o1 at h1
    generalize P env skip s ctx = o2 at h2
    cases o1 with
    | ok v s1 em1 => trivial
    | fail =>
      cases o2 with
      | ok v s2 em2 =>
        have hw : μ b s2 ≤ μ b s := hμ.mono h2.1
        have ha2 : Adm cd T nd μ env n b s2 a := ha.mono (by omega)
        have hrec := ih s2 (em ++ em2) ha2 (hs.mono (by omega)) (hu.mono (by omega))
          fun ht => by have := h2.2 (hT ht); have := hfu ht; omega
        have h3 := hP a s2 ctx b ha2
        dsimp only
        generalize P env a s2 ctx = o3 at h3
        cases o3 with
        | ok v3 s3 em3 => cases em3 <;> first | trivial | exact hrec
        | fail => exact hrec
        | _ => exact h3
      | fail => trivial
      | _ => exact h2
    | _ => exact h1

/-- one step. The children of the node are admissible one level down (`Ok.pred` and the lemma of the node's shape), at
    the flag and with the budget of the position they run at (`Ok.mono`; the budget does not grow: `Budget.step`);
    `hdefs`: the bodies are admissible at the flag `false` and of depth at most `D`, which a call has left (`Budget.call`) -/
theorem pegStep_good (H : CHyp cd env P N K) (hμ : Budget env D μ) (hnd : nd ≤ env.defs.length)
    (hdefs : ∀ k dd, k < nd → env.defs[k]? = some dd →
      Ok T (dd.wf cd nd) (dd.termOk cd) (dd.guarded cd false) dd.depth 0 D)
    (hP : PG cd T nd μ n P env) (hN : NG cd T nd μ n N env) (hK : KG cd T nd μ n K env) :
    PG cd T nd μ (n + 1) (pegStep P N K n) env := by
  intro g s ctx b hg
  have fu : ∀ {w t g d} {s1 : SS}, Ok T w t g d (μ b s1 + env.toks.length + 1) n → T → env.toks.length - s1.pos + 1 ≤ n :=
    fun h ht => by have := (h.tm ht).2.2; omega
  cases g
  case end_ => rw [pegStep_end]; cases env.toks[s.pos]? <;> trivial
  case empty => trivial
  case any | oneOf | noneOf | select => simp only [step_eqs]; exact (sTokenPrim_plain s _).good
  case just ts => exact (sJust_plain ts _ s).good
  case configureJust c ts => exact (sJust_plain _ _ s).good
  case custom f => exact (sCustom_plain f s).good
  case todo => cases hg.wf
  case then_ x y | ignoreThen x y | thenIgnore x y | ignoreWithCtx x y | thenWithCtx x y =>
    obtain ⟨hx, hy⟩ := hg.pred.and
    exact hP.andThen H hμ hx fun _ _ _ _ hw => hP.andThen H hμ (hy.mono (by omega)) fun _ _ _ _ _ => trivial
  case delimitedBy x l r =>
    obtain ⟨hl, hx, hr⟩ := hg.pred.delim
    exact hP.andThen H hμ hl fun _ _ _ _ h1 => hP.andThen H hμ (hx.mono (by omega)) fun _ _ _ _ h2 =>
      hP.andThen H hμ (hr.mono (by omega)) fun _ _ _ _ _ => trivial
  case paddedBy x p =>
    obtain ⟨hp, hx⟩ := hg.pred.padded
    exact hP.andThen H hμ hp fun _ _ _ l1 h1 => hP.andThen H hμ (hx.mono (by omega)) fun _ _ _ l2 _ =>
      hP.andThen H hμ (hp.mono (by have := hμ.mono (b := b) (Nat.le_trans l1 l2); omega)) fun _ _ _ _ _ => trivial
  case group gs | groupArr gs => exact sGroup_good H hμ hP ctx gs s [] [] b hg.pred
  case or_ x y =>
    obtain ⟨hx, hy⟩ := hg.pred.and
    exact sChoice_cons_good (hP x s ctx b hx) (sChoice_cons_good (hP y s ctx b hy) trivial)
  case choice fl gs =>
    obtain ⟨hgs, hne⟩ := hg.pred.and_wf
    cases fl
    · cases gs
      · cases hne
      · exact sChoice_good hP ctx s b _ hgs
    · exact sChoice_good hP ctx s b _ hgs
  case orNot x | not_ x =>
    have h := hP x s ctx b hg.pred
    simp only [step_eqs]
    generalize P env x s ctx = o at h
    cases o <;> first | trivial | exact h
  case andIs x y =>
    obtain ⟨hx, hy⟩ := hg.pred.and
    exact hP.andThen H hμ hx fun _ _ _ _ _ => hP.andThen H hμ hy fun _ _ _ _ _ => trivial
  case rewind | map | to | ignored | toSpan | toSlice | mapWithSpan | mapWithState | mapWithCtx | validate | labelled =>
    exact hP.andThen H hμ hg.pred fun _ _ _ _ _ => trivial
  case filter | tryMap | tryMapWith => exact hP.andThen H hμ hg.pred fun _ _ _ _ _ => by split <;> trivial
  case withState x =>
    have hw : μ b ⟨s.pos, []⟩ ≤ μ b s := hμ.mono (Nat.le_refl _)
    have hx : Adm cd T nd μ env n b ⟨s.pos, []⟩ x := hg.pred.mono (by omega)
    exact hP.andThen H hμ hx fun _ _ _ _ _ => trivial
  case mapErr | withCtx | mapCtx | memoized | boxed => exact hP _ _ _ b hg.pred
  case collect k it =>
    obtain ⟨h1, hl⟩ := hg.pred.and_wf
    obtain ⟨hi, hT⟩ := h1.and_tm
    exact hK.andThen H hμ hi fun ist s1 em hf hw =>
      have hi1 : AdmI cd T nd μ env n b s1 it := hi.mono (by omega)
      sCollectLoop_good H hμ hN ctx it k b hl hT n s1 ist [] 0 em hi1 hf (fu hi1)
  case collectExactly m it =>
    exact hK.andThen H hμ hg.pred fun ist s1 em hf hw =>
      have hi1 : AdmI cd T nd μ env n b s1 it := hg.pred.mono (by omega)
      sCollectExactlyLoop_good H hμ hN ctx it b m s1 ist [] em hi1 hf
  case foldl f x it | foldlWith x it =>
    obtain ⟨hx, h1⟩ := hg.pred.and
    obtain ⟨h2, hl⟩ := h1.and_wf
    obtain ⟨hi, hT⟩ := h2.and_tm
    refine hP.andThen H hμ hx fun _ s1 _ _ hw1 => hK.andThen H hμ (hi.mono (by omega)) fun ist s2 em hf hw2 => ?_
    have hi2 : AdmI cd T nd μ env n (b || x.consumes cd) s2 it := hi.mono (by omega)
    exact sFoldlLoop_good H hμ hN ctx it _ _ hl hT n _ _ _ _ hi2 hf fun ht => by have := (hi2.tm ht).2.2; omega
  case foldr f it y | foldrWith it y =>
    obtain ⟨hi, h1⟩ := hg.pred.and
    obtain ⟨h2, hl⟩ := h1.and_wf
    obtain ⟨hy, hT⟩ := h2.and_tm
    have hk := hK it s ctx b hi
    have hk' := H.k it s ctx (.inl trivial)
    simp only [step_eqs]
    generalize K env it s ctx = o at hk hk'
    cases o with
    | ok ist s1 e1 =>
      have hw1 : μ b s1 ≤ μ b s := hμ.mono hk'.1
      have hi1 : AdmI cd T nd μ env n b s1 it := hi.mono (by omega)
      have hf := sFoldrCollect_good H hμ hN ctx it b hl hT s1 n s1 ist [] e1 hi1 hk (fu hi1) (Nat.le_refl _)
      dsimp only
      generalize sFoldrCollect N env ctx it n s1 ist [] e1 = r at hf
      match r, hf with
      | .inr o, hf => exact hf
      | .inl none, hf => exact hf.elim
      | .inl (some (items, s2, e2)), hf =>
        have hw2 : μ b s2 ≤ μ b s := hμ.mono (Nat.le_trans hk'.1 hf)
        exact hP.andThen H hμ (hy.mono (by omega)) fun _ _ _ _ _ => trivial
    | fail => trivial
    | _ => exact hk
  case iterP it =>
    obtain ⟨h1, hok⟩ := hg.pred.and_wf
    obtain ⟨hi, hT⟩ := h1.and_tm
    have loop : ∀ ap, (ap = true → (it.advances cd) = true) → (T → (it.advances cd) = true) →
        (match K env it s ctx with
          | .ok ist s1 em => sIterLoop N env ctx it ap n s1 ist em
          | .fail => .fail
          | .panic w => .panic w
          | .oof => .oof).Good T := fun ap hap hTa => hK.andThen H hμ hi fun ist s1 em hf hw =>
      have hi1 : AdmI cd T nd μ env n b s1 it := hi.mono (by omega)
      sIterLoop_good H hμ hN ctx it ap b hap hTa n s1 ist em hi1 hf (fu hi1)
    cases it
    case repeated x lo hi' =>
      cases lo
      · cases hi'
        · exact sRepeatFast_good H hμ hP ctx x b hok n s [] hi.weak (fu hi)
        · exact loop true (fun _ => hok) (fun _ => hok)
      · exact loop true (fun _ => hok) (fun _ => hok)
    case separatedBy => exact loop true (fun _ => hok) (fun _ => hok)
    case configureRep | tryConfigureRep => exact loop false nofun hT
    case intoIter x => exact hP.andThen H hμ hi.weak fun _ _ _ _ _ => trivial
    all_goals cases hok
  case recoverVia x r =>
    obtain ⟨hx, hr⟩ := hg.pred.and
    have h1 := hP x s ctx b hx
    have h2 := hP r s ctx b hr
    rw [pegStep_recoverVia]
    generalize P env x s ctx = o1 at h1
    generalize P env r s ctx = o2 at h2
    cases o1 with
    | ok v s1 em => trivial
    | fail => cases o2 <;> first | trivial | exact h2
    | _ => exact h1
  case recoverSkipUntil x skip until_ fb =>
    obtain ⟨hx, h1⟩ := hg.pred.and
    obtain ⟨hs, h2⟩ := h1.and
    obtain ⟨hu, hT⟩ := h2.and_tm
    have h := hP x s ctx b hx
    rw [pegStep_recoverSkipUntil]
    generalize P env x s ctx = o at h
    cases o with
    | ok v s1 em => trivial
    | fail => exact sSkipUntil_good H hμ hP ctx skip until_ fb b hT n s [] hs hu (fu hs)
    | _ => exact h
  case recoverSkipRetry x skip until_ =>
    obtain ⟨hx, h1⟩ := hg.pred.and
    obtain ⟨hs, h2⟩ := h1.and
    obtain ⟨hu, hT⟩ := h2.and_tm
    have h := hP x s ctx b hx
    rw [pegStep_recoverSkipRetry]
    generalize P env x s ctx = o at h
    cases o with
    | ok v s1 em => trivial
    | fail => exact sSkipRetry_good H hμ hP ctx x skip until_ b hT n s [] hx hs hu (fu hs)
    | _ => exact h
  case call k =>
    have hk : k < nd := of_decide_eq_true hg.wf
    have he := List.getElem?_eq_getElem (Nat.lt_of_lt_of_le hk hnd)
    have hd := hdefs k _ hk he
    rw [pegStep_call, he]
    refine hP _ s ctx false ⟨hd.wf, fun ht => ?_⟩
    obtain ⟨_, rfl, hf⟩ := hg.pred.tm ht
    have := hμ.call s
    exact ⟨(hd.tm ht).1, (hd.tm ht).2.1, by have := (hd.tm ht).2.2; omega⟩

theorem isRepeated_eq {it : It} (h : it.isRepeated = true) : ∃ a lo hi, it = .repeated a lo hi := by
  cases it
  case repeated a lo hi => exact ⟨a, lo, hi, rfl⟩
  all_goals cases h

theorem pegMk_good (hP : PG cd T nd μ n P env) (hK : KG cd T nd μ n K env) : KG cd T nd μ (n + 1) (pegMk P K) env := by
  intro it s ctx b hi
  cases it
  case repeated => exact .repeated
  case separatedBy => exact .separatedBy
  case orNotIt => exact .orNotIt
  case enumerate inner =>
    have h := hK inner s ctx b hi.pred
    rw [pegMk]; revert h
    cases K env inner s ctx <;> first | exact id | exact .enumerate
  case intoIter a =>
    have h := hP a s ctx b hi.pred
    rw [pegMk]; revert h
    cases P env a s ctx <;> first | exact id | exact fun _ => .intoIter
  case thenIt x y =>
    have h := hK x s ctx b hi.pred.and.1
    rw [pegMk]; revert h
    cases K env x s ctx <;> first | exact id | exact .thenFst
  case mapIt f inner =>
    have h := hK inner s ctx b hi.pred
    rw [pegMk]; revert h
    cases K env inner s ctx <;> first | exact id | exact .mapIt
  case configureRep c inner =>
    obtain ⟨hin, hr⟩ := hi.pred.and_wf
    obtain ⟨x, lo, hi', rfl⟩ := isRepeated_eq hr
    have h := hK _ s ctx b hin
    rw [pegMk]; revert h
    cases K env (.repeated x lo hi') s ctx <;> first | exact id | exact fun h => by cases h; exact .configureRep
  case tryConfigureRep c inner =>
    obtain ⟨hin, hr⟩ := hi.pred.and_wf
    obtain ⟨x, lo, hi', rfl⟩ := isRepeated_eq hr
    have h := hK _ s ctx b hin
    rw [pegMk]
    cases ctx.asNat? with
    | none => trivial
    | some m =>
      dsimp only; revert h
      cases K env (.repeated x lo hi') s ctx <;> first | exact id | exact fun h => by cases h; exact .tryConfigureRep

theorem sRepeatedNext_good (hP : PG cd T nd μ n P env) (ctx : Val) {a : G} {b : Bool} {s : SS}
    (ha : Adm cd T nd μ env n b s a) (lo : Nat) (hi : Option Nat) (m : Nat) (wrap : ItSt → ItSt) (it : It)
    (hw : ∀ m, it.Fits (wrap (.cnt m))) : (sRepeatedNext P env ctx a lo hi s m wrap).Good T it := by
  refine sRepeatedNext_rule (X := SItOut.Good T it) (hw _) trivial ?_
  have h := hP a s ctx b ha; revert h
  cases P env a s ctx <;> first | exact id | exact fun _ => hw _

theorem sSeparatedNext_good (H : CHyp cd env P N K) (hμ : Budget env D μ) (hP : PG cd T nd μ n P env) (ctx : Val)
    {a sep : G} {b : Bool} {s : SS} (ha : Adm cd T nd μ env n b s a) (hs : Adm cd T nd μ env n b s sep) (lo : Nat)
    (hi : Option Nat) (lead trail : Bool) (m : Nat) (it : It) (hw : ∀ m, it.Fits (.cnt m)) :
    (sSeparatedNext P env ctx a sep lo hi lead trail s m).Good T it := by
  refine sSeparatedNext_rule (X := SItOut.Good T it) (R := fun s0 => s.pos ≤ s0.pos) (fun _ _ _ => hw _) trivial
    (Nat.le_refl _) ?_ fun s0 e0 h0 => ?_
  · have h := pstep H hP hs ctx; revert h
    cases P env sep s ctx <;> first | exact id | exact fun h => h.1
  · have h := hP a s0 ctx b (ha.mono (by have := hμ.mono (b := b) h0; omega)); revert h
    cases P env a s0 ctx <;> first | exact id | exact fun _ => hw _

theorem pegNext_good (H : CHyp cd env P N K) (hμ : Budget env D μ) (hP : PG cd T nd μ n P env)
    (hN : NG cd T nd μ n N env) (hK : KG cd T nd μ n K env) : NG cd T nd μ (n + 1) (pegNext P N K) env := by
  intro it s ctx ist b hi hf
  cases hf
  case repeated a lo hi' m =>
    rw [pegNext_repeated]
    exact sRepeatedNext_good hP ctx hi.pred _ _ m id _ fun _ => .repeated
  case separatedBy a sep lo hi' lead trail m =>
    rw [pegNext_separatedBy]
    exact sSeparatedNext_good H hμ hP ctx hi.pred.and.1 hi.pred.and.2 _ _ _ _ m _ fun _ => .separatedBy
  case enumerate inner k st hf =>
    have h := hN inner s ctx st b hi.pred hf
    simp only [step_eqs]; revert h
    cases N env inner s ctx st <;> first | exact id | exact .enumerate
  case orNotIt a fin =>
    have h := hP a s ctx b hi.pred
    simp only [step_eqs]
    split
    · exact .orNotIt
    · revert h; cases P env a s ctx <;> first | exact id | exact fun _ => .orNotIt
  case intoIter a vs =>
    simp only [step_eqs]
    split <;> exact .intoIter
  case thenSnd x y sa sb hfa hfb =>
    have h := hN y s ctx sb b hi.pred.and.2 hfb
    simp only [step_eqs]; revert h
    cases N env y s ctx sb <;> first | exact id | exact .thenSnd hfa
  case thenFst x y sa hfa =>
    obtain ⟨hx, hy⟩ := hi.pred.and
    have h1 := nstep H hN hx ctx hfa
    simp only [step_eqs]
    generalize N env x s ctx sa = o1 at h1
    cases o1 with
    | some v s1 sa1 e1 => exact .thenFst h1.1
    | done s1 sa1 e1 =>
      have hw1 : μ b s1 ≤ μ b s := hμ.mono h1.2
      have hy1 : AdmI cd T nd μ env n b s1 y := hy.mono (by omega)
      have h2 := hK y s1 ctx b hy1
      have h2' := H.k y s1 ctx (.inl trivial)
      dsimp only
      generalize K env y s1 ctx = o2 at h2 h2'
      cases o2 with
      | ok sb s2 e2 =>
        have hw2 : μ b s2 ≤ μ b s1 := hμ.mono h2'.1
        have h3 := hN y s2 ctx sb b (hy1.mono (by omega)) h2
        dsimp only; revert h3
        cases N env y s2 ctx sb <;> first | exact id | exact .thenSnd h1.1
      | fail => trivial
      | _ => exact h2
    | fail => trivial
    | _ => exact h1
  case mapIt f inner hf =>
    have h := hN inner s ctx ist b hi.pred hf
    simp only [step_eqs]; revert h
    cases N env inner s ctx ist <;> first | exact id | exact .mapIt
  case configureRep c a lo hi' m clo chi =>
    rw [pegNext_configureRep]
    exact sRepeatedNext_good hP ctx hi.pred.and_wf.1.weak _ _ m _ _ fun _ => .configureRep
  case tryConfigureRep c a lo hi' m clo chi =>
    rw [pegNext_tryConfigureRep]
    exact sRepeatedNext_good hP ctx hi.pred.and_wf.1.weak _ _ m _ _ fun _ => .tryConfigureRep

end good

theorem good_all {cd : Nat → Bool} {T : Prop} {nd D : Nat} {μ : Bool → SS → Nat} (env : Env) (hcd : CDefs cd env)
    (hμ : Budget env D μ) (hnd : nd ≤ env.defs.length)
    (hdefs : ∀ k dd, k < nd → env.defs[k]? = some dd →
      Ok T (dd.wf cd nd) (dd.termOk cd) (dd.guarded cd false) dd.depth 0 D) :
    ∀ n, PG cd T nd μ n (peg n) env ∧ NG cd T nd μ n (pegNext' n) env ∧ KG cd T nd μ n (pegMk' n) env := by
  intro n
  induction n with
  | zero => exact ⟨fun _ _ _ _ h => h.zero, fun _ _ _ _ _ h _ => h.zero, fun _ _ _ _ h => h.zero⟩
  | succ n ih =>
    have H := chyp_all env hcd n
    exact ⟨pegStep_good H hμ hnd hdefs ih.1 ih.2.1 ih.2.2, pegNext_good H hμ ih.1 ih.2.1 ih.2.2, pegMk_good ih.1 ih.2.2⟩

theorem SOut.Good.notStuck {o : SOut} (h : o.Good True) : o ≠ .oof ∧ ∀ w, o ≠ .panic w := by
  cases o with
  | panic w => exact h.elim
  | oof => exact (h trivial).elim
  | _ => exact ⟨nofun, fun _ => nofun⟩

/-! ### C20 (2): well-formed grammars never panic -/

/-- the definitions of `env` are well-formed w.r.t. the consumption annotation `cd`, and `cd` is justified -/
structure DefsWf (cd : Nat → Bool) (env : Env) : Prop where
  cdefs : CDefs cd env
  wf : ∀ dd ∈ env.defs, dd.wf cd env.defs.length = true

theorem defsWf_nil {env : Env} (h : env.defs = []) : DefsWf noCalls env :=
  ⟨cdefs_noCalls env, by rw [h]; nofun⟩

theorem defsWf_noCalls {env : Env} (h : ∀ dd ∈ env.defs, dd.wf noCalls env.defs.length = true) : DefsWf noCalls env :=
  ⟨cdefs_noCalls env, h⟩

/-- **C20 (2), spec side.** -/
theorem peg_wf_no_panic {cd : Nat → Bool} (n : Nat) (env : Env) (g : G) (s : SS) (ctx : Val)
    (hg : g.wf cd env.defs.length = true) (hd : DefsWf cd env) (w : Nat) :
    peg n env g s ctx ≠ .panic w := by
  intro h
  have := (good_all (T := False) env hd.cdefs (budget_zero env) (Nat.le_refl _)
    (fun k dd _ he => ⟨hd.wf dd (List.mem_of_getElem? he), nofun⟩) n).1 g s ctx true ⟨hg, nofun⟩
  rw [h] at this
  exact this

/-- **C20 (2).** a well-formed grammar (with well-formed definitions) never panics, whatever the input, the
    start state, the mode and the fuel -/
theorem run_wf_no_panic {cd : Nat → Bool} (n : Nat) (env : Env) (m : Mode) (g : G) (st : St) (hm : env.memoOn = false)
    (hg : g.wf cd env.defs.length = true) (hd : DefsWf cd env) (w : Nat) :
    run n env m g st ≠ .panic w :=
  fun h => peg_wf_no_panic n env g _ _ hg hd w (run_panic_peg hm h)

theorem parseTop_wf_no_panic {cd : Nat → Bool} (n : Nat) (env : Env) (m : Mode) (g : G) (hm : env.memoOn = false)
    (hg : g.wf cd env.defs.length = true) (hd : DefsWf cd env) (w : Nat) :
    parseTop n env m g ≠ .panic w :=
  fun h => run_wf_no_panic n env m (.thenIgnore g .end_) St.init hm (Bool.and_eq_true_iff.2 ⟨hg, rfl⟩) hd w
    (parseTop_panic_run h)

/-! ### C20 (3): non-recursive well-formed grammars terminate -/

/-- well-formed, no `call`, and what termination needs: recovery `skip` parsers consume, the iterators driven by
    a fuel-bounded loop advance with every item -/
def G.wfTerm (g : G) : Bool := g.wf noCalls 0 && g.termOk noCalls

/-- **C20 (3), spec side.** fuel `depth + |input| + 1` suffices: neither out of fuel nor a panic. A call-free grammar
    is guarded at the flag `true`, and nothing has to be paid for. -/
theorem peg_terminates (n : Nat) (env : Env) (g : G) (s : SS) (ctx : Val) (hg : g.wfTerm = true)
    (hn : g.depth + env.toks.length + 1 ≤ n) :
    peg n env g s ctx ≠ .oof ∧ ∀ w, peg n env g s ctx ≠ .panic w := by
  obtain ⟨hw, ht⟩ := Bool.and_eq_true_iff.1 hg
  exact ((good_all (T := True) (nd := 0) env (cdefs_noCalls env) (budget_zero env) (Nat.zero_le _)
    (fun k dd hk => absurd hk (Nat.not_lt_zero _)) n).1 g s ctx true
    ⟨hw, fun _ => ⟨ht, g.guarded_seen noCalls, by show g.depth + (0 + env.toks.length + 1) ≤ n; omega⟩⟩).notStuck

theorem run_notStuck {n : Nat} {env : Env} {m : Mode} {g : G} {st : St} (hm : env.memoOn = false)
    (h : peg n env g st.ss st.ctx ≠ .oof ∧ ∀ w, peg n env g st.ss st.ctx ≠ .panic w) :
    run n env m g st ≠ .oof ∧ ∀ w, run n env m g st ≠ .panic w :=
  ⟨fun hr => h.1 (run_oof_peg hm hr), fun w hr => h.2 w (run_panic_peg hm hr)⟩

/-- **C20 (3).** -/
theorem run_terminates (n : Nat) (env : Env) (m : Mode) (g : G) (st : St) (hm : env.memoOn = false)
    (hg : g.wfTerm = true) (hn : g.depth + env.toks.length + 1 ≤ n) :
    run n env m g st ≠ .oof ∧ ∀ w, run n env m g st ≠ .panic w :=
  run_notStuck hm (peg_terminates n env g _ _ hg hn)

theorem parseTop_oof_run {n : Nat} {env : Env} {m : Mode} {g : G} :
    parseTop n env m g = .oof → run n env m (.thenIgnore g .end_) St.init = .oof := by
  unfold parseTop
  cases run n env m (.thenIgnore g .end_) St.init <;> simp

/-- `parse`/`check` return a `ParseResult` when the run of `g.then_ignore(end())` is neither out of fuel nor a panic -/
theorem parseTop_returns {n : Nat} {env : Env} {m : Mode} {g : G}
    (h : run n env m (.thenIgnore g .end_) St.init ≠ .oof ∧ ∀ w, run n env m (.thenIgnore g .end_) St.init ≠ .panic w) :
    ∃ r final, parseTop n env m g = .result r final := by
  cases hp : parseTop n env m g with
  | result r final => exact ⟨r, final, rfl⟩
  | panic w => exact absurd (parseTop_panic_run hp) (h.2 w)
  | oof => exact absurd (parseTop_oof_run hp) h.1

/-- **C20 (3), top level.** `parse`/`check` return a `ParseResult` -/
theorem parseTop_terminates (n : Nat) (env : Env) (m : Mode) (g : G) (hm : env.memoOn = false)
    (hg : g.wfTerm = true) (hn : g.depth + env.toks.length + 2 ≤ n) :
    ∃ r final, parseTop n env m g = .result r final := by
  obtain ⟨hw, ht⟩ := Bool.and_eq_true_iff.1 hg
  have hd : max g.depth 1 + 1 + env.toks.length + 1 ≤ n := by have := g.depth_pos; omega
  exact parseTop_returns (run_terminates n env m (.thenIgnore g .end_) St.init hm
    (Bool.and_eq_true_iff.2 ⟨Bool.and_eq_true_iff.2 ⟨hw, rfl⟩, Bool.and_eq_true_iff.2 ⟨ht, rfl⟩⟩) hd)


/-! ## 4. what `wf` does not give: termination -/

/-- `a.recover_with(skip_until(empty(), until, ..))`: well-formed, no repetition at all -/
def hangSkipUntil : G := .recoverSkipUntil (.just [1]) .empty (.just [2]) .unit

theorem hangSkipUntil_wf : hangSkipUntil.wf noCalls 0 = true := by decide

theorem hangSkipUntil_loop (env : Env) (he : env.toks = []) (n : Nat) (ctx : Val) : ∀ fuel em,
    sSkipUntil (peg (n + 1)) env ctx .empty (.just [2]) .unit fuel ⟨0, []⟩ em = .oof := by
  intro fuel
  induction fuel with
  | zero => intro em; simp [sSkipUntil]
  | succ fuel ih =>
    intro em
    have h1 : peg (n + 1) env (.just [2]) ⟨0, []⟩ ctx = .fail := by simp [peg, step_eqs, sJust, he]
    have h2 : peg (n + 1) env .empty ⟨0, []⟩ ctx = .ok .unit ⟨0, []⟩ [] := by simp [peg, step_eqs]
    simp only [sSkipUntil, h1, h2]
    exact ih _

/-- … and yet out of fuel at every fuel: the skip parser does not consume, `until` never matches -/
theorem hangSkipUntil_oof (env : Env) (he : env.toks = []) (n : Nat) (ctx : Val) :
    peg n env hangSkipUntil ⟨0, []⟩ ctx = .oof := by
  cases n with
  | zero => simp [peg]
  | succ n =>
    cases n with
    | zero => simp [peg, step_eqs, hangSkipUntil]
    | succ n =>
      simp only [hangSkipUntil, peg, step_eqs]
      simp [sJust, he]
      exact hangSkipUntil_loop env he n ctx _ _

theorem hangSkipUntil_parseTop (env : Env) (he : env.toks = []) (hm : env.memoOn = false) (n : Nat) (m : Mode) :
    parseTop n env m hangSkipUntil = .oof := by
  have hp : peg n env (.thenIgnore hangSkipUntil .end_) ⟨0, []⟩ .unit = .oof := by
    cases n with
    | zero => simp [peg]
    | succ n => simp [peg, step_eqs, hangSkipUntil_oof env he n, SOut.andThen]
  have hr := run_refines n env m (.thenIgnore hangSkipUntil .end_) St.init hm
  have e1 : St.init.ss = ⟨0, []⟩ := rfl
  have e2 : St.init.ctx = .unit := rfl
  rw [e1, e2, hp] at hr
  unfold parseTop
  revert hr
  cases run n env m (.thenIgnore hangSkipUntil .end_) St.init <;> simp [Refines]


/-- `any().repeated().then(empty().to(x).or_not()).collect()`: the repeated item consumes, the iterator is finite,
    and still the `Collect` no-progress assertion fires — `Then` is `NONCONSUMPTION_IS_OK` only when both sides are -/
def thenMix : G := .collect .vec (.thenIt (.repeated .any 0 none) (.orNotIt (.to (.tok 7) .empty)))

theorem thenMix_not_wf : thenMix.wf noCalls 0 = false := by decide

theorem thenMix_panics : peg 6 { toks := [5] } thenMix ⟨0, []⟩ .unit = .panic pNoProgress := by
  with_unfolding_all rfl

/-- a loop over `into_iter` yields as many items as the value has elements: no bound in terms of depth and input
    length; this is why `termOk` wants looped iterators to `advance` -/
def bigIntoIter : G := .collect .vec (.intoIter (.to (.toks [1, 2, 3, 4, 5, 6]) .empty))

theorem bigIntoIter_wf : bigIntoIter.wf noCalls 0 = true := by decide
theorem bigIntoIter_fuel : bigIntoIter.depth + ({ toks := [] } : Env).toks.length + 1 = 5 := by decide
theorem bigIntoIter_oof : peg 5 { toks := [] } bigIntoIter ⟨0, []⟩ .unit = .oof := by
  with_unfolding_all rfl

/-! ## 5. sanity: the predicates accept ordinary grammars -/

section examples

/-- `none_of(' ').repeated().at_least(1).collect::<String>()` -/
def exWord : G := .collect .string (.repeated (.filter (.tokNot 32) .any) 1 none)
/-- `one_of(' ').repeated()` used as a parser -/
def exWs : G := .iterP (.repeated (.oneOf [32]) 0 none)
/-- `word.padded_by(ws).repeated().collect::<Vec<_>>()` -/
def exWords : G := .collect .vec (.repeated (.paddedBy exWord exWs) 0 none)
/-- `value = '[' value,* ']' | digit+` as definition 0 -/
def exValue : G := .choice .tuple
  [.delimitedBy (.collect .vec (.separatedBy (.call 0) (.just [44]) 0 none false true)) (.just [91]) (.just [93]),
   .collect .string (.repeated (.oneOf [48, 49]) 1 none)]
def exEnv (toks : List Nat) : Env := { toks := toks, defs := [exValue], memoOn := false }
def allCalls : Nat → Bool := fun _ => true

example : exWord.consumes noCalls = true := by decide
example : exWords.wf noCalls 0 = true := by decide
example : exWords.wfTerm = true := by decide
example : exValue.consumes allCalls = true := by decide
example : exValue.wf allCalls 1 = true := by decide

theorem exEnv_defsWf (toks : List Nat) : DefsWf allCalls (exEnv toks) :=
  ⟨fun k dd h _ => by
      cases k with
      | zero => simp [exEnv] at h; subst h; decide
      | succ k => simp [exEnv] at h,
   fun dd h => by
      simp [exEnv] at h; subst h
      show exValue.wf allCalls 1 = true
      decide⟩

/-- the recursive list grammar never panics, on any input -/
example (n : Nat) (toks : List Nat) (m : Mode) (w : Nat) : parseTop n (exEnv toks) m (.call 0) ≠ .panic w :=
  parseTop_wf_no_panic n (exEnv toks) m (.call 0) rfl (by show (G.call 0).wf allCalls 1 = true; decide)
    (exEnv_defsWf toks) w

/-- the word list grammar always returns a `ParseResult` -/
example (toks : List Nat) (m : Mode) :
    ∃ r final, parseTop (exWords.depth + toks.length + 2) { toks := toks, memoOn := false } m exWords = .result r final :=
  parseTop_terminates _ { toks := toks, memoOn := false } m exWords rfl (by decide) (Nat.le_refl _)

end examples

#print axioms peg_panic_sites
#print axioms run_no_unwrap_panic
#print axioms parseTop_no_unwrap_panic
#print axioms peg_consumes
#print axioms pegNext'_advances
#print axioms good_all
#print axioms peg_wf_no_panic
#print axioms run_wf_no_panic
#print axioms parseTop_wf_no_panic
#print axioms peg_terminates
#print axioms run_terminates
#print axioms parseTop_terminates
#print axioms hangSkipUntil_parseTop
#print axioms thenMix_panics
#print axioms bigIntoIter_oof

end Chumsky
