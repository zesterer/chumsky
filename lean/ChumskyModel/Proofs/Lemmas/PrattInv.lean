/-
  C18 / C20 for Pratt parsers: state invariants of the reading carry through the binding-power recursion.

  For every preorder `R` on spec states that the atom / operator parsers respect, every result of `sPratt` is `R`-related to
  its start. Instances (from `SpecInv`): `Fed` — the inspector has been fed exactly the tokens between start and end
  position, whatever operators were tried and abandoned on the way (C18) — and `Adv` — positions only move forward and
  stay inside the input (C20). Plain tables and recursive expression grammars (`XEnv`).
-/
import ChumskyModel.Proofs.Lemmas.PrattRefine
import ChumskyModel.Proofs.Lemmas.SpecInv
namespace Chumsky

section
variable {P : G → SS → SOut} {rec : Nat → SS → SOut} {env : Env} {R : SS → SS → Prop} {ok : G → Prop}

def OpsOK (ok : G → Prop) (ops : List PrattOp) : Prop := ∀ o ∈ ops, ok o.parser

/-- hypothesis on the atom / operator parsers: results are `R`-related to the start, composed with what came before -/
def PSat (P : G → SS → SOut) (ok : G → Prop) (R : SS → SS → Prop) : Prop :=
  ∀ g s0 s, ok g → R s0 s → (P g s).Sat (R s0)
def RecSat (rec : Nat → SS → SOut) (R : SS → SS → Prop) : Prop :=
  ∀ p s0 s, R s0 s → (rec p s).Sat (R s0)

variable {ops : List PrattOp} {s0 s : SS} {op : G}

theorem sPrattOperator_inv (hP : PSat P ok R) (h0 : R s0 s) (hop : ok op) (start : Nat) (f : Val → Nat × Nat → Val) :
    (sPrattOperator P env start f op s).Sat (R s0) :=
  (hP op s0 s hop h0).andThen fun _ _ _ h1 => h1

theorem sPrattOperand_inv (hP : PSat P ok R) (hrec : RecSat rec R) (h0 : R s0 s) (hop : ok op) (start : Nat)
    (f : Val → Val → Nat × Nat → Val) (p : Nat) : (sPrattOperand P rec env start f op p s).Sat (R s0) :=
  (hP op s0 s hop h0).andThen fun _ s1 _ h1 => (hrec p s0 s1 h1).andThen fun _ _ _ h2 => h2

theorem sPrattLoop_inv (hP : PSat P ok R) (hrec : RecSat rec R) (hops : OpsOK ok ops) (start : SS) (minP : Nat) :
    ∀ (k : Nat) (s : SS) (lhs : Val) (em : List Emis), R s0 s → (sPrattLoop P rec env ops start minP k s lhs em).Sat (R s0)
  | 0, _, _, _, _ => trivial
  | k + 1, s, lhs, em, h0 => by
    rw [sPrattLoop_succ]
    cases hr : (sPrattPostfix P env start minP lhs s ops).or (sPrattInfix P rec env start minP lhs s ops) with
    | none => exact h0
    | some o =>
      have : o.Sat (R s0) := by
        rcases sPrattRound_some hr with ⟨_, _, hm, _, rfl⟩ | ⟨_, _, _, hm, _, rfl⟩
        · exact sPrattOperator_inv hP h0 (hops _ hm) ..
        · exact sPrattOperand_inv hP hrec h0 (hops _ hm) ..
      exact this.andThen fun v s1 _ h1 => sPrattLoop_inv hP hrec hops start minP k s1 v _ h1

/-- every result of the textbook algorithm is `R`-related to where it started (however many operators were tried and
    abandoned) -/
theorem sPratt_inv (hP : PSat P ok R) (atom : G) (hatom : ok atom) (ops : List PrattOp) (hops : OpsOK ok ops) :
    ∀ (k minP : Nat) (s0 s : SS), R s0 s → (sPratt P env atom ops k minP s).Sat (R s0)
  | 0, _, _, _, _ => trivial
  | k + 1, minP, s0, s, h0 => by
    have hrec : RecSat (sPratt P env atom ops k) R := sPratt_inv hP atom hatom ops hops k
    rw [sPratt_succ]
    refine SOut.Sat.andThen (Q := R s0) ?_ fun v s1 e1 h1 => sPrattLoop_inv hP hrec hops s minP k s1 v e1 h1
    cases h : sPrattPrefix P (sPratt P env atom ops k) env s ops with
    | none => exact hP atom s0 s hatom h0
    | some o =>
      obtain ⟨_, _, hm, rfl⟩ := sPrattPrefix_some h
      exact sPrattOperand_inv hP hrec h0 (hops _ hm) ..
end

theorem peg_pSat {env : Env} {W : Prop} {R : SS → SS → Prop} (hR : RelOK env W R) (hdefs : ∀ d ∈ env.defs, OKG W d)
    (n : Nat) (ctx : Val) : PSat (fun g s => peg n env g s ctx) (OKG W) R :=
  fun _ _ _ hg h0 => PInv.at hR (peg_inv_all hR hdefs n).1 hg ctx h0

/-- **C18 for `atom.pratt(ops)`**: a successful Pratt parse from `s` to `s'` has fed the inspector exactly the tokens
    between the two positions (atom / operator parsers without `with_state` scopes) -/
theorem pegPratt_fed (fuel : Nat) (env : Env) (hdefs : ∀ d ∈ env.defs, d.noStateScope = true) (atom : G)
    (hatom : atom.noStateScope = true) (ops : List PrattOp) (hops : ∀ o ∈ ops, o.parser.noStateScope = true)
    (s : SS) (ctx : Val) {v s' em} (h : pegPratt fuel env atom ops s ctx = .ok v s' em) : Fed env s s' :=
  (sPratt_inv (env := env) (peg_pSat (fed_relOK env) (fun d hd => Or.inr (hdefs d hd)) fuel ctx) atom
    (Or.inr hatom) ops (fun o ho => Or.inr (hops o ho)) fuel 0 s s ((fed_relOK env).refl s)).of_eq h

/-- positions only move forward and stay inside the input (no hypothesis on the grammars) -/
theorem pegPratt_adv (fuel : Nat) (env : Env) (atom : G) (ops : List PrattOp) (s : SS) (ctx : Val) {v s' em}
    (h : pegPratt fuel env atom ops s ctx = .ok v s' em) : Adv env s s' :=
  (sPratt_inv (env := env) (peg_pSat (adv_relOK env) (fun _ _ => Or.inl trivial) fuel ctx) atom
    (Or.inl trivial) ops (fun _ _ => Or.inl trivial) fuel 0 s s ((adv_relOK env).refl s)).of_eq h

theorem pegX_inv_all (x : XEnv) {env : Env} {W : Prop} {R : SS → SS → Prop} (hR : RelOK env W R)
    (hdefs : ∀ d ∈ env.defs, OKG W d) (hatom : OKG W x.atom) (hops : OpsOK (OKG W) x.ops) (n : Nat) :
    PInv W R (pegX x n) env ∧ NInv W R (pegNextX x n) env ∧ KInv W R (pegMkX x n) env := by
  induction n with
  | zero => exact ⟨fun _ _ _ _ => trivial, fun _ _ _ _ _ => trivial, fun _ _ _ _ => trivial⟩
  | succ n ih =>
    obtain ⟨hP, hN, hK⟩ := ih
    refine ⟨fun g s ctx hg => ?_, pegNext_inv hR hP hN hK, pegMk_inv hR hP hK⟩
    rw [pegX]
    exact SOut.Sat.ite
      (fun _ => sPratt_inv (env := env) (ok := OKG W) (fun g s0 s hg h0 => PInv.at hR hP hg ctx h0) x.atom hatom x.ops
        hops n 0 s s (hR.refl s))
      fun _ => pegStep_inv hR hdefs hP hN hK n g s ctx hg

/-- **C18 for recursive expression grammars**: at every grammar position the inspector is fed exactly the tokens between
    start and end of a successful (sub-)parse, through any depth of parentheses and abandoned operators -/
theorem pegX_fed (x : XEnv) (n : Nat) (env : Env) (hdefs : ∀ d ∈ env.defs, d.noStateScope = true)
    (hatom : x.atom.noStateScope = true) (hops : ∀ o ∈ x.ops, o.parser.noStateScope = true) (g : G)
    (hg : g.noStateScope = true) (s : SS) (ctx : Val) {v s' em} (h : pegX x n env g s ctx = .ok v s' em) :
    Fed env s s' :=
  ((pegX_inv_all x (fed_relOK env) (fun d hd => Or.inr (hdefs d hd)) (Or.inr hatom)
    (fun o ho => Or.inr (hops o ho)) n).1 g s ctx (Or.inr hg)).of_eq h

theorem pegX_adv (x : XEnv) (n : Nat) (env : Env) (g : G) (s : SS) (ctx : Val) {v s' em}
    (h : pegX x n env g s ctx = .ok v s' em) : Adv env s s' :=
  ((pegX_inv_all x (adv_relOK env) (fun _ _ => Or.inl trivial) (Or.inl trivial)
    (fun _ _ => Or.inl trivial) n).1 g s ctx (Or.inl trivial)).of_eq h


theorem peg_end_ok {n : Nat} {env : Env} {s : SS} {ctx v : Val} {s' : SS} {em : List Emis}
    (h : peg n env .end_ s ctx = .ok v s' em) : s' = s ∧ env.toks[s.pos]? = none := by
  cases n with
  | zero => cases h
  | succ n =>
    rw [peg, pegStep_end] at h
    cases ht : env.toks[s.pos]? with
    | none => rw [ht] at h; cases h; exact ⟨rfl, rfl⟩
    | some t => rw [ht] at h; cases h

/-- **after a successful Pratt parse the inspector has seen exactly the whole input** (reading) -/
theorem pegTopPratt_insp (fuel : Nat) (env : Env) (hdefs : ∀ d ∈ env.defs, d.noStateScope = true) (atom : G)
    (hatom : atom.noStateScope = true) (ops : List PrattOp) (hops : ∀ o ∈ ops, o.parser.noStateScope = true)
    {v s' em} (h : pegTopPratt fuel env atom ops = .ok v s' em) : s'.insp = env.toks ∧ s'.pos = env.toks.length := by
  obtain ⟨v1, s1, e1, h1, h⟩ := SOut.andThen_eq_ok h
  obtain ⟨v2, s2, e2, h2, h⟩ := SOut.andThen_eq_ok h
  obtain ⟨hs, hnone⟩ := peg_end_ok h2
  have hs' : s' = s1 := (SOut.ok.inj h).2.1.symm.trans hs
  subst hs'
  have hp : s'.pos = env.toks.length :=
    Nat.le_antisymm ((pegPratt_adv fuel env atom ops _ _ h1).bound (Nat.zero_le _)) (List.getElem?_eq_none_iff.1 hnone)
  exact ⟨by rw [(pegPratt_fed fuel env hdefs atom hatom ops hops _ _ h1).2, hp]; exact List.take_length, hp⟩

theorem parseTopPratt_final_state (fuel : Nat) (env : Env) (m : Mode) (hm : env.memoOn = false)
    (hdefs : ∀ d ∈ env.defs, d.noStateScope = true) (atom : G) (hatom : atom.noStateScope = true) (ops : List PrattOp)
    (hops : ∀ o ∈ ops, o.parser.noStateScope = true) (r : ParseResult) (f : St)
    (h : parseTopPratt fuel env m atom ops = .result r f) (v : Val) (ho : r.output = some v) :
    f.insp = env.toks ∧ f.pos = env.toks.length := by
  have ht := parseTopPratt_refines fuel env m atom ops hm
  rw [h] at ht
  cases hp : pegTopPratt fuel env atom ops with
  | ok v' s em =>
    rw [hp] at ht
    obtain ⟨_, hs, _⟩ := ht
    subst hs
    exact pegTopPratt_insp fuel env hdefs atom hatom ops hops hp
  | fail => rw [hp] at ht; rw [ht.1] at ho; cases ho
  | _ => rw [hp] at ht; exact ht.elim

end Chumsky
