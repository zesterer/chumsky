/-
  What a successful reading of `a.nested_in(b)` consists of (inversion of `nestedStepS` and `innerThenEndS`), over an arbitrary
  reading of the sub-parsers.
-/
import ChumskyModel.Model.Nested
namespace Chumsky

/-- anatomy of a successful nested parse (reading): `b` succeeded and yielded a group, the inner reading `a` followed by end of
    (inner) input succeeded from inner position 0, the outer position is the one after `b`, the emissions are `b`'s followed by
    the inner ones re-homed there -/
theorem nestedStepS_ok (P : SRunner) (h : HEnv) (env : Env) (s : SS) (ctx : Val) {v s' em}
    (hok : nestedStepS P h env s ctx = .ok v s' em) :
    ∃ vb s1 e1 kids si e2, P env h.b s ctx = .ok vb s1 e1 ∧ h.kidsOf vb = some kids ∧
      innerThenEndS (P (h.innerEnv env kids) h.a ⟨0, s1.insp⟩ ctx) (fun si1 => P (h.innerEnv env kids) .end_ si1 ctx)
        = .ok v si e2 ∧ s' = ⟨s1.pos, si.insp⟩ ∧ em = e1 ++ rehomeEm s1.pos e2 := by
  unfold nestedStepS at hok
  cases hb : P env h.b s ctx with
  | ok vb s1 e1 =>
    rw [hb] at hok
    simp only [SOut.andThen] at hok
    cases hk : h.kidsOf vb with
    | none => rw [hk] at hok; cases hok
    | some kids =>
      rw [hk] at hok
      dsimp only at hok
      generalize hi : innerThenEndS (P (h.innerEnv env kids) h.a ⟨0, s1.insp⟩ ctx)
        (fun si1 => P (h.innerEnv env kids) .end_ si1 ctx) = o at hok
      cases o with
      | ok va si e2 =>
        simp only [SOut.ok.injEq] at hok
        obtain ⟨hv, hs, he⟩ := hok
        subst hv
        exact ⟨vb, s1, e1, kids, si, e2, rfl, hk, hi, hs.symm, he.symm⟩
      | fail => cases hok
      | panic w => cases hok
      | oof => cases hok
  | fail => rw [hb] at hok; simp [SOut.andThen] at hok
  | panic w => rw [hb] at hok; simp [SOut.andThen] at hok
  | oof => rw [hb] at hok; simp [SOut.andThen] at hok

/-- the inner reading consumed the inner input COMPLETELY: `a` then `end()` succeeded, so `a` ended at the end of the children -/
theorem innerThenEndS_ok {pa : SOut} {pend : SS → SOut} {v si e} (h : innerThenEndS pa pend = .ok v si e) :
    ∃ si1 e2 ve e3, pa = .ok v si1 e2 ∧ pend si1 = .ok ve si e3 ∧ e = e2 ++ e3 := by
  unfold innerThenEndS at h
  cases pa with
  | ok va si1 e2 =>
    simp only [SOut.andThen] at h
    cases hp : pend si1 with
    | ok ve si2 e3 =>
      rw [hp] at h
      simp only [SOut.ok.injEq] at h
      obtain ⟨rfl, rfl, rfl⟩ := h
      exact ⟨si1, e2, ve, e3, rfl, hp, rfl⟩
    | fail => rw [hp] at h; cases h
    | panic w => rw [hp] at h; cases h
    | oof => rw [hp] at h; cases h
  | fail => simp [SOut.andThen] at h
  | panic w => simp [SOut.andThen] at h
  | oof => simp [SOut.andThen] at h

end Chumsky
