/-
  The iterator part of the refinement machine ↔ PEG reading: `make_iter` (`stepMk`), `next` (`stepNext`)
  and the loops of the iteration consumers of `step` (`collect`, `collect_exactly`, `foldl`, `foldr`,
  and an `IterParser` used as a plain parser).
-/
import ChumskyModel.Proofs.Lemmas.StepRefine
namespace Chumsky

variable {R : Runner} {P : SRunner} {N : NextRunner} {K : MkRunner} {SN : SNextRunner} {SK : SMkRunner}

theorem DoneRel.refl (st : St) (ist : ItSt) : DoneRel st.errs st.ctx st ist st.ss ist [] :=
  ⟨rfl, Emitted.refl _, rfl, rfl⟩

theorem stepMk_refines (hR : RunnerRefines R P) (hK : MkRefines K SK) : MkRefines (stepMk R K) (pegMk P SK) := by
  intro env m it st hm
  cases it <;> simp only [stepMk, pegMk]
  case repeated | separatedBy | orNotIt => exact .refl st _
  case enumerate inner | thenIt inner _ =>
    exact (hK env m inner st hm).cases (fun _ _ _ h => ⟨rfl, h.errs, h.ctx, rfl⟩) (fun _ hf => hf) (fun _ => rfl) trivial
  case intoIter a =>
    exact (hR env .emit a st hm).cases
      (fun _ _ _ _ h => ⟨rfl, h.errs, h.ctx, congrArg (fun v : Val => ItSt.into v.elems) h.val⟩)
      (fun _ hf => hf) (fun _ => rfl) trivial
  case mapIt f inner => exact hK env m inner st hm
  case configureRep c inner =>
    exact (hK env m inner st hm).cases (fun _ _ _ h => ⟨rfl, h.errs, h.ctx, by rw [h.ctx]⟩) (fun _ hf => hf)
      (fun _ => rfl) trivial
  case tryConfigureRep c inner =>
    cases st.ctx.asNat? with
    | none => exact .addAltErr (List.prefix_refl _) rfl ..
    | some n =>
      exact (hK env m inner st hm).cases (fun _ _ _ h => ⟨rfl, h.errs, h.ctx, rfl⟩) (fun _ hf => hf)
        (fun _ => rfl) trivial

/-! ### the loops of the iteration consumers

  All of them have the shape: the state `st` of the loop has reported, since `base`, what the reading's loop carries
  as its emissions `em`. -/

theorem collectOut_rel {m : Mode} {k : CollKind} {acc acc' : List Val} (h : AccRel m acc acc') :
    collectOut m k acc.reverse = m.bind (sCollectOut k acc'.reverse) := by
  cases m
  · rw [h rfl]; rfl
  · rfl

/-- relation between the results of the collecting phase of `foldr` -/
def FoldrRel (m : Mode) (base : List Loc) (ctx : Val) :
    (Option (List (Val × Nat) × St)) ⊕ Out → (Option (List (Val × Nat) × SS × List Emis)) ⊕ SOut → Prop
  | .inl (some (items, st')), .inl (some (items', s', em)) =>
      (m = .emit → items = items') ∧ st'.ss = s' ∧ Emitted base st'.errs em ∧ st'.ctx = ctx
  | .inr o, .inr so => Refines m base ctx o so
  | _, _ => False

@[elab_as_elim]
theorem FoldrRel.cases {m base ctx} {motive : (Option (List (Val × Nat) × St)) ⊕ Out →
      (Option (List (Val × Nat) × SS × List Emis)) ⊕ SOut → Prop} {x y} (h : FoldrRel m base ctx x y)
    (items : ∀ items items' st' em, (m = .emit → items = items') → Emitted base st'.errs em → st'.ctx = ctx →
      motive (.inl (some (items, st'))) (.inl (some (items', st'.ss, em))))
    (out : ∀ o so, Refines m base ctx o so → motive (.inr o) (.inr so)) : motive x y := by
  rcases x with (_ | ⟨_, _⟩) | _ <;> rcases y with (_ | ⟨_, _, _⟩) | _ <;> try exact False.elim h
  · obtain ⟨hi, rfl, he, hc⟩ := h
    exact items _ _ _ _ hi he hc
  · exact out _ _ h

theorem repeatFast_refines (hR : RunnerRefines R P) {env : Env} (hm : env.memoOn = false) (m : Mode) (a : G)
    {base : List Loc} {ctx : Val} :
    ∀ (fuel : Nat) (st : St) (em : List Emis), Emitted base st.errs em → st.ctx = ctx →
      Refines m base ctx (repeatFast R env a fuel st) (sRepeatFast P env ctx a fuel st.ss em)
  | 0, _, _, _, _ => trivial
  | fuel + 1, st, em, he, hc => by
    unfold repeatFast sRepeatFast
    exact (hR.sub hm .check a st hc).cases
      (fun _ _ _ _ h => .ite (fun _ => rfl) fun _ =>
        repeatFast_refines hR hm m a fuel _ _ (he.trans h.emitted) h.ctx)
      (fun _ hf => hf.rewind_ok he (bind_unit m).symm) (fun _ => rfl) trivial

section
variable (hN : NextRefines N SN) {env : Env} (hm : env.memoOn = false) (m : Mode) (it : It) {base : List Loc} {ctx : Val}
include hN hm

theorem collectLoop_refines (k : CollKind) :
    ∀ (fuel : Nat) (st : St) (ist : ItSt) (acc acc' : List Val) (i : Nat) (em : List Emis),
      Emitted base st.errs em → st.ctx = ctx → AccRel m acc acc' →
      Refines m base ctx (collectLoop N env m it k fuel st ist acc i)
        (sCollectLoop SN env ctx it k fuel st.ss ist acc' i em)
  | 0, _, _, _, _, _, _, _, _, _ => trivial
  | fuel + 1, st, ist, acc, acc', i, em, he, hc, ha => by
    unfold collectLoop sCollectLoop
    exact (hN.sub hm m it st ist hc).cases
      (fun _ _ _ _ _ h => .ite (fun _ => rfl) fun _ =>
        collectLoop_refines k fuel _ _ _ _ _ _ (he.trans h.emitted) h.ctx (ha.cons h.val))
      (fun _ _ _ h => ⟨collectOut_rel ha, rfl, he.trans h.emitted, h.ctx⟩)
      (fun _ hf => hf.mono he.prefix) (fun _ => rfl) trivial

theorem collectExactlyLoop_refines :
    ∀ (n : Nat) (st : St) (ist : ItSt) (acc acc' : List Val) (em : List Emis),
      Emitted base st.errs em → st.ctx = ctx → AccRel m acc acc' →
      Refines m base ctx (collectExactlyLoop N env m it n st ist acc)
        (sCollectExactlyLoop SN env ctx it n st.ss ist acc' em)
  | 0, _, _, _, _, _, he, hc, ha => ⟨ha.bind_ofList, rfl, he, hc⟩
  | n + 1, st, ist, acc, acc', em, he, hc, ha => by
    unfold collectExactlyLoop sCollectExactlyLoop
    exact (hN.sub hm m it st ist hc).cases
      (fun _ _ _ _ _ h =>
        collectExactlyLoop_refines n _ _ _ _ _ (he.trans h.emitted) h.ctx (ha.cons h.val))
      -- the iterator ended early: the machine records a pending error, the reading just fails
      (fun _ _ _ h => .addAlt (he.trans h.emitted).prefix h.ctx ..)
      (fun _ hf => hf.mono he.prefix) (fun _ => rfl) trivial

theorem foldlLoop_refines (f : Val → Val → St → Val) (f' : Val → Val → SS → Val)
    (hf : ∀ acc x st', f acc x st' = f' acc x st'.ss) :
    ∀ (fuel : Nat) (st : St) (ist : ItSt) (acc acc' : Val) (em : List Emis),
      Emitted base st.errs em → st.ctx = ctx → acc = m.bind acc' →
      Refines m base ctx (foldlLoop N env m it f fuel st ist acc)
        (sFoldlLoop SN env ctx it f' fuel st.ss ist acc' em)
  | 0, _, _, _, _, _, _, _, _ => trivial
  | fuel + 1, st, ist, acc, acc', em, he, hc, ha => by
    unfold foldlLoop sFoldlLoop
    exact (hN.sub hm m it st ist hc).cases
      (fun v st' _ v' _ h => .ite (fun _ => rfl) fun _ =>
        foldlLoop_refines f f' hf fuel _ _ _ _ _ (he.trans h.emitted) h.ctx (by
          cases m
          · rw [(h.val : v = v'), (ha : acc = acc'), hf]; rfl
          · rfl))
      (fun _ _ _ h => ⟨ha, rfl, he.trans h.emitted, h.ctx⟩)
      (fun _ hf => hf.mono he.prefix) (fun _ => rfl) trivial

theorem foldrCollect_refines :
    ∀ (fuel : Nat) (st : St) (ist : ItSt) (acc acc' : List (Val × Nat)) (em : List Emis),
      Emitted base st.errs em → st.ctx = ctx → (m = .emit → acc = acc') →
      FoldrRel m base ctx (foldrCollect N env m it fuel st ist acc)
        (sFoldrCollect SN env ctx it fuel st.ss ist acc' em)
  | 0, _, _, _, _, _, _, _, _ => trivial
  | fuel + 1, st, ist, acc, acc', em, he, hc, ha => by
    unfold foldrCollect sFoldrCollect
    exact (hN.sub hm m it st ist hc).cases
      (fun v st' _ v' _ h => ite_rel (FoldrRel m base ctx) (fun _ => rfl) fun _ =>
        foldrCollect_refines fuel _ _ _ _ _ (he.trans h.emitted) h.ctx (by
          rintro rfl
          rw [(h.val : v = v'), ha rfl]; rfl))
      (fun _ _ _ h => ⟨ha, rfl, he.trans h.emitted, h.ctx⟩)
      (fun _ hf => hf.mono he.prefix) (fun _ => rfl) trivial

theorem iterLoop_refines (ap : Bool) :
    ∀ (fuel : Nat) (st : St) (ist : ItSt) (em : List Emis), Emitted base st.errs em → st.ctx = ctx →
      Refines m base ctx (iterLoop N env it ap fuel st ist) (sIterLoop SN env ctx it ap fuel st.ss ist em)
  | 0, _, _, _, _, _ => trivial
  | fuel + 1, st, ist, em, he, hc => by
    unfold iterLoop sIterLoop
    exact (hN.sub hm .check it st ist hc).cases
      (fun _ _ _ _ _ h => .ite (fun _ => rfl) fun _ =>
        iterLoop_refines ap fuel _ _ _ (he.trans h.emitted) h.ctx)
      (fun _ _ _ h => ⟨(bind_unit m).symm, rfl, he.trans h.emitted, h.ctx⟩)
      (fun _ hf => hf.mono he.prefix) (fun _ => rfl) trivial

end

theorem repeatedNext_refines (hR : RunnerRefines R P) (env : Env) (hm : env.memoOn = false) (m : Mode) (a : G)
    (lo : Nat) (hi : Option Nat) (st : St) (n : Nat) (wrap : ItSt → ItSt) :
    RefinesIt m st.errs st.ctx (repeatedNext R env m a lo hi st n wrap)
      (sRepeatedNext P env st.ctx a lo hi st.ss n wrap) := by
  unfold repeatedNext sRepeatedNext
  split
  · exact .refl st _
  · refine (hR env m a st hm).cases (fun _ _ _ _ h => ⟨h, rfl⟩) (fun st' hf => ?_) (fun _ => rfl) trivial
    exact ite_rel (RefinesIt m st.errs st.ctx) (fun _ => hf.rewind_done (.refl _) _) fun _ => hf.rewind

/-- the item part of `SeparatedBy::next`, started in `st0` (after the optional separator, whose emissions
    are `e0`); `st` is the state at the start of `next` -/
theorem sepItem_refines (hR : RunnerRefines R P) (env : Env) (hm : env.memoOn = false) (m : Mode) (a : G)
    (lo n : Nat) (trail : Bool) (st st0 : St) (e0 : List Emis)
    (he0 : Emitted st.errs st0.errs e0) (hc0 : st0.ctx = st.ctx) :
    RefinesIt m st.errs st.ctx
      (match R env m a st0 with
        | .ok v st1 => .some v st1 (.cnt (n + 1))
        | .fail st1 =>
          if n < lo then .fail (st1.rewind st.save)
          else if trail then .done (st1.rewind st0.save) (.cnt n)
          else .done (st1.rewind st.save) (.cnt n)
        | .panic w => .panic w
        | .oof => .oof)
      (match P env a st0.ss st.ctx with
        | .ok v s1 em => .some v s1 (.cnt (n + 1)) (e0 ++ em)
        | .fail =>
          if n < lo then .fail
          else if trail then .done st0.ss (.cnt n) e0
          else .done st.ss (.cnt n) []
        | .panic w => .panic w
        | .oof => .oof) := by
  refine (hR.sub hm m a st0 hc0).cases (fun _ _ _ _ h => ⟨⟨h.val, rfl, he0.trans h.emitted, h.ctx⟩, rfl⟩)
    (fun st' hf => ?_) (fun _ => rfl) trivial
  have hf' := hf.mono he0.prefix
  exact ite_rel (RefinesIt m st.errs st.ctx) (fun _ => hf'.rewind) fun _ =>
    ite_rel (RefinesIt m st.errs st.ctx) (fun _ => hf.rewind_done he0 _) fun _ => hf'.rewind_done (.refl _) _

theorem separatedNext_refines (hR : RunnerRefines R P) (env : Env) (hm : env.memoOn = false) (m : Mode) (a sep : G)
    (lo : Nat) (hi : Option Nat) (lead trail : Bool) (st : St) (n : Nat) :
    RefinesIt m st.errs st.ctx (separatedNext R env m a sep lo hi lead trail st n)
      (sSeparatedNext P env st.ctx a sep lo hi lead trail st.ss n) := by
  have item := sepItem_refines hR env hm m a lo n trail st
  have sep := hR env .check sep st hm
  unfold separatedNext sSeparatedNext
  refine ite_rel (RefinesIt m st.errs st.ctx) (fun _ => .refl st _) fun _ => ?_
  refine ite_rel (RefinesIt m st.errs st.ctx) (fun _ => ?_) fun _ => ite_rel _ (fun _ => ?_) fun _ =>
    item st [] (.refl _) rfl
  · exact sep.cases (fun _ st' _ _ h => item st' _ h.emitted h.ctx)
      (fun st' hf => item (st'.rewind st.save) [] (hf.rewind_emitted (.refl _)) hf.ctx)
      (fun _ => rfl) trivial
  · refine sep.cases (fun _ st' _ _ h => item st' _ h.emitted h.ctx) (fun st' hf => ?_) (fun _ => rfl) trivial
    exact ite_rel (RefinesIt m st.errs st.ctx) (fun _ => hf.rewind) fun _ => hf.rewind_done (.refl _) _

theorem stepNext_refines (hR : RunnerRefines R P) (hN : NextRefines N SN) (hK : MkRefines K SK) :
    NextRefines (stepNext R N K) (pegNext P SN SK) := by
  intro env m it st ist hm
  cases it with
  | repeated a lo hi =>
    cases ist with
    | cnt n => exact repeatedNext_refines hR env hm m a lo hi st n id
    | _ => exact rfl
  | separatedBy a sep lo hi lead trail =>
    cases ist with
    | cnt n => exact separatedNext_refines hR env hm m a sep lo hi lead trail st n
    | _ => exact rfl
  | enumerate inner =>
    cases ist with
    | enum k s =>
      rw [stepNext_enumerate, pegNext_enumerate]
      exact (hN env m inner st s hm).cases (fun _ _ _ _ _ h => ⟨h.mono (bind_congr h.val (.pair _ ·)), rfl⟩)
        (fun _ _ _ h => ⟨rfl, h.errs, h.ctx, rfl⟩) (fun _ hf => hf) (fun _ => rfl) trivial
    | _ => exact rfl
  | orNotIt a =>
    cases ist with
    | fin b =>
      rw [stepNext_orNotIt, pegNext_orNotIt]
      refine ite_rel (RefinesIt m st.errs st.ctx) (fun _ => .refl st _) fun _ => ?_
      exact (hR env m a st hm).cases (fun _ _ _ _ h => ⟨h, rfl⟩)
        (fun _ hf => hf.rewind_done (.refl _) _) (fun _ => rfl) trivial
    | _ => exact rfl
  | intoIter a =>
    cases ist with
    | into vs =>
      cases vs with
      | nil => exact .refl st _
      | cons v rest => exact ⟨⟨rfl, rfl, Emitted.refl _, rfl⟩, rfl⟩
    | _ => exact rfl
  | thenIt a b =>
    cases ist with
    | thn sa sb? =>
      cases sb? with
      | some sb =>
        rw [stepNext_thenIt_some, pegNext_thenIt_some]
        exact (hN env m b st sb hm).cases (fun _ _ _ _ _ h => ⟨h, rfl⟩) (fun _ _ _ h => ⟨rfl, h.errs, h.ctx, rfl⟩)
          (fun _ hf => hf) (fun _ => rfl) trivial
      | none =>
        -- `a` is exhausted: make the iterator of `b` and take its first item
        rw [stepNext_thenIt_none, pegNext_thenIt_none]
        refine (hN env m a st sa hm).cases (fun _ _ _ _ _ h => ⟨h, rfl⟩) (fun st1 _ _ h1 => ?_) (fun _ hf => hf)
          (fun _ => rfl) trivial
        dsimp only
        refine (hK.sub hm m b st1 h1.ctx).cases (fun sb st2 _ h2 => ?_) (fun _ hf => hf.mono h1.emitted.prefix)
          (fun _ => rfl) trivial
        have he2 := h1.emitted.trans h2.emitted
        dsimp only
        exact (hN.sub hm m b st2 sb h2.ctx).cases
          (fun _ _ _ _ _ h3 => ⟨⟨h3.val, rfl, he2.trans h3.emitted, h3.ctx⟩, rfl⟩)
          (fun _ _ _ h3 => ⟨rfl, he2.trans h3.emitted, h3.ctx, rfl⟩) (fun _ hf => hf.mono he2.prefix)
          (fun _ => rfl) trivial
    | _ => exact rfl
  | mapIt f inner =>
    have key : RefinesIt m st.errs st.ctx
        (match N env m inner st ist with
          | .some v st1 s1 => .some (match m with | .emit => f.eval v | .check => .unit) st1 s1
          | o => o)
        (match SN env inner st.ss st.ctx ist with
          | .some v s1 st1 em => .some (f.eval v) s1 st1 em
          | o => o) :=
      (hN env m inner st ist hm).cases (fun _ _ _ _ _ h => ⟨h.mono (bind_map h.val f.eval), rfl⟩)
        (fun _ _ _ h => h) (fun _ hf => hf) (fun _ => rfl) trivial
    cases ist <;> exact key
  | configureRep c inner =>
    cases inner with
    | repeated a lo hi =>
      cases ist with
      | cfg s0 clo chi =>
        cases s0 with
        | cnt n => exact repeatedNext_refines hR env hm m a _ _ st n fun s => .cfg s clo chi
        | _ => exact rfl
      | _ => exact rfl
    | _ => exact rfl
  | tryConfigureRep c inner =>
    cases inner with
    | repeated a lo hi =>
      cases ist with
      | cfg s0 clo chi =>
        cases s0 with
        | cnt n => exact repeatedNext_refines hR env hm m a _ _ st n fun s => .cfg s clo chi
        | _ => exact rfl
      | _ => exact rfl
    | _ => exact rfl

#print axioms stepNext_refines
#print axioms stepMk_refines

end Chumsky
