/-
  C06 for Pratt parsers: `pratt_go` preserves the pending-error invariant (pending error ≈ fold of the priority rule over
  all failure events logged) — its rewinds after operators whose operand is missing never touch the pending error — so
  when `atom.pratt(ops)` fails the reported primary error is the summary of ALL failure events: furthest position, merged
  expectations. Stated over an arbitrary runner for the `c06` atom / operator grammars; plain tables here, the extension
  machine (recursive expression grammars included) in `ExtAll`.
-/
import ChumskyModel.Proofs.Lemmas.PrattTable
import ChumskyModel.Proofs.Lemmas.AltInv
namespace Chumsky

def PrattOp.g : PrattOp → G
  | .infix _ _ op => op
  | .prefix _ op => op
  | .postfix _ op => op

def opsC06 : List PrattOp → Bool
  | [] => true
  | o :: os => o.g.c06 && opsC06 os

theorem opsC06_mem {ops : List PrattOp} (h : opsC06 ops = true) : ∀ o ∈ ops, o.g.c06 = true := by
  induction ops with
  | nil => exact fun _ ho => nomatch ho
  | cons a rest ih =>
    obtain ⟨ha, hr⟩ := Bool.and_eq_true_iff.1 h
    exact fun o ho => (List.mem_cons.1 ho).elim (fun e => e ▸ ha) (ih hr o)

variable {R : Mode → G → St → Out} {rec : Nat → St → Out} {ek : ErrKind}

def PAR (R : Mode → G → St → Out) (ek : ErrKind) : Prop := ∀ m g st, g.c06 = true → (R m g st).AR ek st
def RecAR (rec : Nat → St → Out) (ek : ErrKind) : Prop := ∀ p st, (rec p st).AR ek st

/-- what a pass from `st0` leaves -/
abbrev SumAR (ek : ErrKind) (st0 : St) : Sum St Out → Prop := PassSat (AltRel ek st0) (Out.AR ek st0)

theorem rewind_altRel {a b : St} (h : AltRel ek a b) (c : Chk) : AltRel ek a (b.rewind c) := h.right rfl rfl

/-- an attempt in the course of a pass: the rewind after a failure touches neither the pending error nor the log -/
theorem Out.AR.orRewind {st0 st : St} {o : Out} (h0 : AltRel ek st0 st) (h : o.AR ek st) (c : Chk) :
    SumAR ek st0 (o.orRewind c) := by
  cases o with
  | ok v st' => exact h0.trans h
  | fail st' => exact rewind_altRel (h0.trans h.toRel) c
  | _ => trivial

section
variable {env : Env} {m : Mode} {op : G} {ops : List PrattOp} {st0 st : St}

theorem prattOperator_AR (hR : PAR R ek) (hop : op.c06 = true) (start : Nat) (f : Val → Nat × Nat → Val) (st : St) :
    (prattOperator R env m start f op st).AR ek st :=
  (hR m op st hop).andThen fun _ st1 => AltRel.refl ek st1

theorem prattOperand_AR (hR : PAR R ek) (hrec : RecAR rec ek) (hop : op.c06 = true) (start : Nat)
    (f : Val → Val → Nat × Nat → Val) (p : Nat) (st : St) : (prattOperand R rec env m start f op p st).AR ek st :=
  (hR m op st hop).andThen fun _ st1 => (hrec p st1).andThen fun _ st2 => AltRel.refl ek st2

theorem prattPrefix_AR (hR : PAR R ek) (hrec : RecAR rec ek) (c : Chk) (hops : opsC06 ops = true)
    (h0 : AltRel ek st0 st) : SumAR ek st0 (prattPrefix R rec env m c ops st) := by
  rw [prattPrefix_eq]
  refine tablePass_sat (fun o ho st h0 => ?_) h0
  cases o with
  | «prefix» bp op => exact (prattOperand_AR hR hrec (opsC06_mem hops _ ho) ..).orRewind h0 c
  | _ => exact h0

theorem prattPostfix_AR (hR : PAR R ek) (c c' : Chk) (minP : Nat) (lhs : Val) (hops : opsC06 ops = true)
    (h0 : AltRel ek st0 st) : SumAR ek st0 (prattPostfix R env m c c' minP lhs ops st) := by
  rw [prattPostfix_eq]
  refine tablePass_sat (fun o ho st h0 => ?_) h0
  cases o with
  | «postfix» bp op =>
    exact PassSat.ite (fun _ => (prattOperator_AR hR (opsC06_mem hops _ ho) ..).orRewind h0 c') fun _ => h0
  | _ => exact h0

theorem prattInfix_AR (hR : PAR R ek) (hrec : RecAR rec ek) (c c' : Chk) (minP : Nat) (lhs : Val)
    (hops : opsC06 ops = true) (h0 : AltRel ek st0 st) :
    SumAR ek st0 (prattInfix R rec env m c c' minP lhs ops st) := by
  rw [prattInfix_eq]
  refine tablePass_sat (fun o ho st h0 => ?_) h0
  cases o with
  | «infix» la bp op =>
    exact PassSat.ite (fun _ => (prattOperand_AR hR hrec (opsC06_mem hops _ ho) ..).orRewind h0 c') fun _ => h0
  | _ => exact h0

theorem prattLoop_AR (hR : PAR R ek) (hrec : RecAR rec ek) (hops : opsC06 ops = true) (c : Chk) (minP : Nat) :
    ∀ (k : Nat) (st : St) (lhs : Val), AltRel ek st0 st → (prattLoop R rec env m ops c minP k st lhs).AR ek st0
  | 0, _, _, _ => trivial
  | k + 1, st, lhs, h0 => by
    have next : ∀ o : Out, o.AR ek st0 →
        (o.andThen fun v st1 => prattLoop R rec env m ops c minP k st1 v).AR ek st0 :=
      fun _ h => Out.Sat.bind (I := altRunRel ek) h fun v st1 h1 => prattLoop_AR hR hrec hops c minP k st1 v h1
    rw [prattLoop_succ]
    refine (prattPostfix_AR hR c st.save minP lhs hops h0).cases (fun st1 hp => ?_) next
    dsimp only
    exact (prattInfix_AR hR hrec c st.save minP lhs hops hp).cases (fun st2 hi => rewind_altRel hi _) next

end

/-- **the pending-error invariant through `pratt_go`** (success: ≈ merged with the events logged; failure: at least one
    event was logged) -/
theorem prattGo_AR (hR : PAR R ek) (env : Env) (m : Mode) (atom : G) (hatom : atom.c06 = true) (ops : List PrattOp)
    (hops : opsC06 ops = true) : ∀ (k minP : Nat) (st : St), (prattGo R env m atom ops k minP st).AR ek st
  | 0, _, _ => trivial
  | k + 1, minP, st => by
    have hrec : RecAR (prattGo R env m atom ops k) ek := prattGo_AR hR env m atom hatom ops hops k
    rw [prattGo_succ]
    refine Out.Sat.bind (I := altRunRel ek) ?_ fun v st1 h1 => prattLoop_AR hR hrec hops st.save minP k st1 v h1
    exact (prattPrefix_AR hR hrec st.save hops (AltRel.refl ek st)).cases
      (fun st0 hp => Out.Sat.trans (I := altRunRel ek) hp (hR m atom st0 hatom)) fun _ h => h

theorem runPratt_AR (fuel : Nat) (env : Env) (hek : env.ek ≠ .empty) (hdefs : ∀ d ∈ env.defs, d.c06 = true)
    (m : Mode) (atom : G) (hatom : atom.c06 = true) (ops : List PrattOp) (hops : opsC06 ops = true) (st : St) :
    (runPratt fuel env m atom ops st).AR env.ek st :=
  prattGo_AR (fun m g st hg => run_AR fuel env hek hdefs m g hg st) env m atom hatom ops hops fuel 0 st

theorem parseTopPratt_fail {fuel : Nat} {env : Env} {m : Mode} {atom : G} {ops : List PrattOp} {r : ParseResult}
    {f : St} (h : parseTopPratt fuel env m atom ops = .result r f) (ho : r.output = none) :
    ((runPratt fuel env m atom ops St.init).andThen fun v st1 =>
        (run fuel env .check .end_ st1).andThen fun _ st2 => .ok v st2) = .fail f ∧
      r.errs = f.errs.map (·.err) ++ [match f.alt with
        | some a => a.err
        | none => env.ek.expectedFound [] none (env.mkSpan f.pos f.pos)] := by
  unfold parseTopPratt at h
  generalize ((runPratt fuel env m atom ops St.init).andThen fun v st1 =>
        (run fuel env .check .end_ st1).andThen fun _ st2 => .ok v st2) = o at h ⊢
  cases o with
  | ok v st => cases h; cases ho
  | fail st => cases h; exact ⟨rfl, rfl⟩
  | _ => cases h

/-- **C06 for `atom.pratt(ops)`**: when the parse fails, the last reported error is the pending error of the final
    state and it is (≈) the summary of ALL failure events of the parse — those of operators that matched but whose operand
    was missing, of operators that did not match, of the atom — so it lies at the furthest failure position -/
theorem parseTopPratt_primary_error (fuel : Nat) (env : Env) (hek : env.ek ≠ .empty)
    (hdefs : ∀ d ∈ env.defs, d.c06 = true) (m : Mode) (atom : G) (hatom : atom.c06 = true) (ops : List PrattOp)
    (hops : opsC06 ops = true) (r : ParseResult) (f : St)
    (h : parseTopPratt fuel env m atom ops = .result r f) (ho : r.output = none) :
    ∃ l l', f.alt = some l ∧ summ env.ek f.log = some l' ∧ l.equiv l' ∧ r.errs = f.errs.map (·.err) ++ [l.err] ∧
      (∀ ev ∈ f.log, ev.pos ≤ l.pos) := by
  obtain ⟨hrun, herrs⟩ := parseTopPratt_fail h ho
  have hAR : (((runPratt fuel env m atom ops St.init).andThen fun v st1 =>
        (run fuel env .check .end_ st1).andThen fun _ st2 => .ok v st2)).AR env.ek St.init := by
    refine Out.AR.andThen (runPratt_AR fuel env hek hdefs m atom hatom ops hops St.init) ?_
    intro v st1
    refine Out.AR.andThen (run_AR fuel env hek hdefs .check .end_ rfl st1) ?_
    intro _ st2
    exact AltRel.refl _ _
  rw [hrun] at hAR
  obtain ⟨l, l', hl, hs, he⟩ := AltRelF.init hAR
  refine ⟨l, l', hl, hs, he, by rw [herrs, hl], ?_⟩
  intro ev hev
  rw [he.1]
  exact (foldAlt_pos_ge hs).1 ev hev

end Chumsky
