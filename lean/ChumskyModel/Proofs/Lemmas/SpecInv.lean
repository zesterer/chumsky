/-
  Proofs/Lemmas/SpecInv.lean — the outcomes of the reference semantics (`peg`) alone.

  One analysis of `pegStep` / `pegNext` / `pegMk` for arbitrary runners (one lemma per loop helper, open recursion),
  closed by induction on the fuel (`claim_all`): the panics are among a set `B`, start and end position of a success
  are related by a relation graded by `consumes` / `advances`. Its instances here are the relations that ignore the
  grade (`RelOK`, `peg_inv_all`):
  (A) `peg_adv`      : the position never moves backwards and never passes the end of the input.
  (B) `peg_fed`      : outside `with_state` scopes, the inspector has been fed exactly the consumed tokens.
  (C) `peg_withState`: `with_state` runs its parser with a fresh inspector and restores the outer one.
  The panic sites and the soundness of `consumes` / `advances` are in Total.lean.
-/
import ChumskyModel.Proofs.Lemmas.StepEqns
-- `peg_fed` and `peg_insp_prefix` state a bound on the start position that their proofs do not use
set_option linter.unusedVariables false
namespace Chumsky

mutual
/-- `false` exactly when a `.withState` node occurs anywhere inside (definitions are checked separately) -/
def G.noStateScope : G → Bool
  | .end_ => true
  | .empty => true
  | .any => true
  | .just _ => true
  | .oneOf _ => true
  | .noneOf _ => true
  | .select _ => true
  | .custom _ => true
  | .todo => true
  | .then_ a b => a.noStateScope && b.noStateScope
  | .ignoreThen a b => a.noStateScope && b.noStateScope
  | .thenIgnore a b => a.noStateScope && b.noStateScope
  | .delimitedBy a l r => a.noStateScope && (l.noStateScope && r.noStateScope)
  | .paddedBy a p => a.noStateScope && p.noStateScope
  | .group gs => noStateScopeL gs
  | .groupArr gs => noStateScopeL gs
  | .or_ a b => a.noStateScope && b.noStateScope
  | .choice _ gs => noStateScopeL gs
  | .orNot a => a.noStateScope
  | .not_ a => a.noStateScope
  | .andIs a b => a.noStateScope && b.noStateScope
  | .rewind a => a.noStateScope
  | .map _ a => a.noStateScope
  | .to _ a => a.noStateScope
  | .ignored a => a.noStateScope
  | .filter _ a => a.noStateScope
  | .tryMap _ a => a.noStateScope
  | .tryMapWith _ a => a.noStateScope
  | .toSpan a => a.noStateScope
  | .toSlice a => a.noStateScope
  | .mapWithSpan a => a.noStateScope
  | .mapWithState a => a.noStateScope
  | .mapWithCtx a => a.noStateScope
  | .validate _ a => a.noStateScope
  | .collect _ it => it.noStateScope
  | .collectExactly _ it => it.noStateScope
  | .foldl _ a it => a.noStateScope && it.noStateScope
  | .foldr _ it b => it.noStateScope && b.noStateScope
  | .foldlWith a it => a.noStateScope && it.noStateScope
  | .foldrWith it b => it.noStateScope && b.noStateScope
  | .iterP it => it.noStateScope
  | .recoverVia a r => a.noStateScope && r.noStateScope
  | .recoverSkipUntil a skip until_ _ => a.noStateScope && (skip.noStateScope && until_.noStateScope)
  | .recoverSkipRetry a skip until_ => a.noStateScope && (skip.noStateScope && until_.noStateScope)
  | .labelled _ _ a => a.noStateScope
  | .mapErr _ a => a.noStateScope
  | .withCtx _ a => a.noStateScope
  | .ignoreWithCtx a b => a.noStateScope && b.noStateScope
  | .thenWithCtx a b => a.noStateScope && b.noStateScope
  | .mapCtx _ a => a.noStateScope
  | .configureJust _ _ => true
  | .withState _ => false
  | .memoized _ a => a.noStateScope
  | .call _ => true
  | .boxed a => a.noStateScope
def It.noStateScope : It → Bool
  | .repeated a _ _ => a.noStateScope
  | .separatedBy a sep _ _ _ _ => a.noStateScope && sep.noStateScope
  | .enumerate it => it.noStateScope
  | .orNotIt a => a.noStateScope
  | .intoIter a => a.noStateScope
  | .thenIt a b => a.noStateScope && b.noStateScope
  | .mapIt _ it => it.noStateScope
  | .configureRep _ it => it.noStateScope
  | .tryConfigureRep _ it => it.noStateScope
def noStateScopeL : List G → Bool
  | [] => true
  | g :: gs => g.noStateScope && noStateScopeL gs
end

/-! ## the syntactic grade

  `G.consumes cd`: every successful match takes at least one token (conservative; `cd k`: definition `k` consumes).
  `It.advances cd`: every item of the iterator moves the position. -/

mutual
def G.consumes (cd : Nat → Bool) : G → Bool
  | .end_ => false
  | .empty => false
  | .any => true
  | .just ts => !ts.isEmpty
  | .oneOf _ => true
  | .noneOf _ => true
  | .select _ => true
  | .custom f => match f with | .next _ => true | _ => false
  | .todo => false
  | .then_ a b => (a.consumes cd) || (b.consumes cd)
  | .ignoreThen a b => (a.consumes cd) || (b.consumes cd)
  | .thenIgnore a b => (a.consumes cd) || (b.consumes cd)
  | .delimitedBy a l r => (a.consumes cd) || ((l.consumes cd) || (r.consumes cd))
  | .paddedBy a p => (a.consumes cd) || (p.consumes cd)
  | .group gs => consumesAny cd gs
  | .groupArr gs => consumesAny cd gs
  | .or_ a b => (a.consumes cd) && (b.consumes cd)
  | .choice _ gs => consumesAll cd gs
  | .orNot _ => false
  | .not_ _ => false
  | .andIs a _ => (a.consumes cd)
  | .rewind _ => false
  | .map _ a => (a.consumes cd)
  | .to _ a => (a.consumes cd)
  | .ignored a => (a.consumes cd)
  | .filter _ a => (a.consumes cd)
  | .tryMap _ a => (a.consumes cd)
  | .tryMapWith _ a => (a.consumes cd)
  | .toSpan a => (a.consumes cd)
  | .toSlice a => (a.consumes cd)
  | .mapWithSpan a => (a.consumes cd)
  | .mapWithState a => (a.consumes cd)
  | .mapWithCtx a => (a.consumes cd)
  | .validate _ a => (a.consumes cd)
  | .collect _ it => (it.first1 cd)
  | .collectExactly _ _ => false
  | .foldl _ a _ => (a.consumes cd)
  | .foldr _ _ b => (b.consumes cd)
  | .foldlWith a _ => (a.consumes cd)
  | .foldrWith _ b => (b.consumes cd)
  | .iterP _ => false
  | .recoverVia a r => (a.consumes cd) && (r.consumes cd)
  | .recoverSkipUntil a _ until_ _ => (a.consumes cd) && (until_.consumes cd)
  | .recoverSkipRetry a _ _ => (a.consumes cd)
  | .labelled _ _ a => (a.consumes cd)
  | .mapErr _ a => (a.consumes cd)
  | .withCtx _ a => (a.consumes cd)
  | .ignoreWithCtx a b => (a.consumes cd) || (b.consumes cd)
  | .thenWithCtx a b => (a.consumes cd) || (b.consumes cd)
  | .mapCtx _ a => (a.consumes cd)
  | .configureJust c ts => match c with | .seqFromCtx => false | _ => !ts.isEmpty
  | .withState a => (a.consumes cd)
  | .memoized _ a => (a.consumes cd)
  | .call k => cd k
  | .boxed a => (a.consumes cd)
def It.advances (cd : Nat → Bool) : It → Bool
  | .repeated a _ _ => (a.consumes cd)
  | .separatedBy a _ _ _ _ _ => (a.consumes cd)
  | .enumerate it => (it.advances cd)
  | .orNotIt a => (a.consumes cd)
  | .intoIter _ => false
  | .thenIt a b => (a.advances cd) && (b.advances cd)
  | .mapIt _ it => (it.advances cd)
  | .configureRep _ it => (it.advances cd)
  | .tryConfigureRep _ it => (it.advances cd)
def It.first1 (cd : Nat → Bool) : It → Bool
  | .repeated a lo hi => (a.consumes cd) && decide (1 ≤ lo) && !capReached hi 0
  | .separatedBy a _ lo hi _ _ => (a.consumes cd) && decide (1 ≤ lo) && !capReached hi 0
  | .enumerate _ => false
  | .orNotIt _ => false
  | .intoIter _ => false
  | .thenIt _ _ => false
  | .mapIt _ _ => false
  | .configureRep _ _ => false
  | .tryConfigureRep _ _ => false
def consumesAny (cd : Nat → Bool) : List G → Bool
  | [] => false
  | g :: gs => (g.consumes cd) || consumesAny cd gs
def consumesAll (cd : Nat → Bool) : List G → Bool
  | [] => true
  | g :: gs => (g.consumes cd) && consumesAll cd gs
end

/-- the panic sites of the reference semantics -/
def SpecPanic (w : Nat) : Prop := w = pTodo ∨ w = pNoProgress ∨ w = pIllTyped ∨ w = pUndefined

theorem specPanic_todo : SpecPanic pTodo := Or.inl rfl
theorem specPanic_noProgress : SpecPanic pNoProgress := Or.inr (Or.inl rfl)
theorem specPanic_illTyped : SpecPanic pIllTyped := Or.inr (Or.inr (Or.inl rfl))
theorem specPanic_undefined : SpecPanic pUndefined := Or.inr (Or.inr (Or.inr rfl))

/-! ## `next` on `repeated` / `separated_by` -/

section rules
variable {env : Env} {P : SRunner}

theorem sRepeatedNext_rule {X : SItOut → Prop} {ctx : Val} {a : G} {lo : Nat} {hi : Option Nat} {s : SS} {n : Nat}
    {wrap : ItSt → ItSt} (hdone : X (.done s (wrap (.cnt n)) [])) (hfail : X .fail)
    (hitem : match P env a s ctx with
      | .ok v s1 em => X (.some v s1 (wrap (.cnt (n + 1))) em)
      | .fail => True
      | .panic w => X (.panic w)
      | .oof => X .oof) :
    X (sRepeatedNext P env ctx a lo hi s n wrap) := by
  unfold sRepeatedNext
  generalize P env a s ctx = o at hitem
  split
  · exact hdone
  · cases o with
    | fail => dsimp only; split; exact hdone; exact hfail
    | _ => exact hitem

theorem sSeparatedNext_rule {X : SItOut → Prop} {R : SS → Prop} {ctx : Val} {a sep : G} {lo : Nat} {hi : Option Nat}
    {lead trail : Bool} {s : SS} {n : Nat} (hdone : ∀ s' e, R s' → X (.done s' (.cnt n) e)) (hfail : X .fail) (hR : R s)
    (hsep : match P env sep s ctx with
      | .ok _ s1 _ => R s1
      | .fail => True
      | .panic w => X (.panic w)
      | .oof => X .oof)
    (hitem : ∀ s0 e0, R s0 → match P env a s0 ctx with
      | .ok v s1 em => X (.some v s1 (.cnt (n + 1)) (e0 ++ em))
      | .fail => True
      | .panic w => X (.panic w)
      | .oof => X .oof) :
    X (sSeparatedNext P env ctx a sep lo hi lead trail s n) := by
  unfold sSeparatedNext
  split
  · exact hdone _ _ hR
  · extract_lets item
    have hi : ∀ s0 e0, R s0 → X (item s0 e0) := by
      intro s0 e0 h0
      have h := hitem s0 e0 h0
      show X (match P env a s0 ctx with | .ok v s1 em => _ | .fail => _ | .panic w => _ | .oof => _)
      generalize P env a s0 ctx = o at h
      cases o with
      | ok v s1 em => exact h
      | fail => dsimp only; split; exact hfail; split; exact hdone _ _ h0; exact hdone _ _ hR
      | panic w => exact h
      | oof => exact h
    generalize P env sep s ctx = o at hsep
    split
    · cases o with
      | ok v s1 e1 => exact hi _ _ hsep
      | fail => exact hi _ _ hR
      | panic w => exact hsep
      | oof => exact hsep
    · split
      · cases o with
        | ok v s1 e1 => exact hi _ _ hsep
        | fail => dsimp only; split; exact hfail; exact hdone _ _ hR
        | panic w => exact hsep
        | oof => exact hsep
      · exact hi _ _ hR

end rules

/-- admissible syntax: anything when `W`, else no `with_state` inside -/
def OKG (W : Prop) (g : G) : Prop := W ∨ g.noStateScope = true
def OKI (W : Prop) (it : It) : Prop := W ∨ it.noStateScope = true
def OKL (W : Prop) (gs : List G) : Prop := W ∨ noStateScopeL gs = true

/-- sub-term admissibility: `sub h` proves `OKG W a` / `OKI W it` / `OKL W gs` for a child of the node in `h` -/
macro "sub " h:ident : tactic => `(tactic| (
  rcases $h:ident with hw | hw
  · exact Or.inl hw
  · simp only [G.noStateScope, It.noStateScope, noStateScopeL, Bool.and_eq_true] at hw
    exact Or.inr (by simp [noStateScopeL, hw])))

/-- Admissibility of a node is, by unfolding `noStateScope` at its constructor, that of its only child (so the
    hypothesis itself serves) or the conjunction of those of its children: these two select one. -/
theorem ok_left {W : Prop} {x y : Bool} (h : W ∨ (x && y) = true) : W ∨ x = true :=
  h.imp_right fun h => (Bool.and_eq_true_iff.1 h).1

theorem ok_right {W : Prop} {x y : Bool} (h : W ∨ (x && y) = true) : W ∨ y = true :=
  h.imp_right fun h => (Bool.and_eq_true_iff.1 h).2

/-! ## what the outcomes of the reading meet: panics among `B`, positions related by `R`

  One analysis of `pegStep` / `pegNext` / `pegMk` for arbitrary runners (open recursion), closed by induction on the
  fuel in `claim_all`. A claim about the three runners consists of a set `B` of panics and a relation `R c s s'` between
  the start and the end position of a success, graded by a Boolean `c`: the grade of a parser is `consumes`, that of an
  item is `advances`. Sequencing takes the disjunction of the grades (`Grade.trans`), an alternative weakens to the
  conjunction (`Grade.weak`). Every state the reading returns is the start state, a one-token advance of a reachable
  state or the result of a sub-run from a reachable state, `with_state` being the single exception: a relation that does
  not tolerate its inspector swap (`W` false) is claimed for grammars without `with_state` only (`OKG`).
  `R = fun _ _ _ => True` leaves the panics; a relation that ignores the grade (`RelOK`) is an invariant of the
  positions; `R = Lt` of Total.lean is consumption. -/

/-- a panic is one of `B`, a success ends at a position `Q` -/
def SOut.Meets (B : Nat → Prop) (Q : SS → Prop) : SOut → Prop
  | .ok _ s' _ => Q s'
  | .panic w => B w
  | _ => True

/-- an item ends at a position `Qs`, the end of the iteration at a position `Qd` -/
def SItOut.Meets (B : Nat → Prop) (Qs Qd : SS → Prop) : SItOut → Prop
  | .some _ s' _ _ => Qs s'
  | .done s' _ _ => Qd s'
  | .panic w => B w
  | _ => True

def SMkOut.Meets (B : Nat → Prop) (Q : SS → Prop) : SMkOut → Prop
  | .ok _ s' _ => Q s'
  | .panic w => B w
  | _ => True

/-- the collecting phase of `foldr` stops at a position `Q`; it never short-circuits with a success -/
def FoldrMeets (B : Nat → Prop) (Q : SS → Prop) : (Option (List (Val × Nat) × SS × List Emis)) ⊕ SOut → Prop
  | .inl (some (_, s', _)) => Q s'
  | .inl none => True
  | .inr (.ok ..) => False
  | .inr (.panic w) => B w
  | .inr _ => True

section meets
variable {B : Nat → Prop} {Q Q' : SS → Prop}

theorem SOut.Meets.mono {o : SOut} (h : o.Meets B Q) (hq : ∀ s, Q s → Q' s) : o.Meets B Q' := by
  cases o with
  | ok v s em => exact hq s h
  | _ => exact h

theorem SOut.Meets.andThen {o : SOut} {k} (h : o.Meets B Q) (hk : ∀ v s em, Q s → (k v s em).Meets B Q') :
    (o.andThen k).Meets B Q' := by
  cases o with
  | ok v s em => exact hk v s em h
  | _ => exact h

@[elab_as_elim]
theorem SOut.Meets.cases {motive : SOut → Prop} {o : SOut} (h : o.Meets B Q)
    (ok : ∀ v s em, Q s → motive (.ok v s em)) (fail : motive .fail) (panic : ∀ w, B w → motive (.panic w))
    (oof : motive .oof) : motive o := by
  cases o with
  | ok v s em => exact ok v s em h
  | fail => exact fail
  | panic w => exact panic w h
  | oof => exact oof

@[elab_as_elim]
theorem SItOut.Meets.cases {Qs Qd : SS → Prop} {motive : SItOut → Prop} {o : SItOut} (h : o.Meets B Qs Qd)
    (some : ∀ v s i em, Qs s → motive (.some v s i em)) (done : ∀ s i em, Qd s → motive (.done s i em))
    (fail : motive .fail) (panic : ∀ w, B w → motive (.panic w)) (oof : motive .oof) : motive o := by
  cases o with
  | some v s i em => exact some v s i em h
  | done s i em => exact done s i em h
  | fail => exact fail
  | panic w => exact panic w h
  | oof => exact oof

@[elab_as_elim]
theorem SMkOut.Meets.cases {motive : SMkOut → Prop} {o : SMkOut} (h : o.Meets B Q)
    (ok : ∀ i s em, Q s → motive (.ok i s em)) (fail : motive .fail) (panic : ∀ w, B w → motive (.panic w))
    (oof : motive .oof) : motive o := by
  cases o with
  | ok i s em => exact ok i s em h
  | fail => exact fail
  | panic w => exact panic w h
  | oof => exact oof

end meets

/-- a relation between positions graded by "a token has been consumed"; `ws`: when `W`, insensitive to the inspector
    swap of `with_state` -/
structure Grade (env : Env) (W : Prop) (R : Bool → SS → SS → Prop) : Prop where
  refl : ∀ s, R false s s
  trans : ∀ {b c : Bool} {s s1 s2 : SS}, R b s s1 → R c s1 s2 → R (b || c) s s2
  weak : ∀ {b c : Bool} {s s' : SS}, (c = true → b = true) → R b s s' → R c s s'
  tok : ∀ {s : SS} {t : Nat}, env.toks[s.pos]? = some t → R true s (s.adv t)
  ws : ∀ {b : Bool} {s s1 : SS}, W → R b ⟨s.pos, []⟩ s1 → R b s ⟨s1.pos, s.insp⟩

/-- what a claim `B`, `R` assumes of the three runners on admissible syntax. `first`: an iterator that must yield an
    item does not say `done` right after `make_iter` (or the claim holds all the same); `defs`: the annotation `cd` of
    the definitions is justified -/
structure Claim (cd : Nat → Bool) (env : Env) (W : Prop) (B : Nat → Prop) (R : Bool → SS → SS → Prop) (P : SRunner)
    (N : SNextRunner) (K : SMkRunner) : Prop where
  p : ∀ g s ctx, OKG W g → (P env g s ctx).Meets B (R (g.consumes cd) s)
  n : ∀ it s ctx ist, OKI W it → (N env it s ctx ist).Meets B (R (it.advances cd) s) (R false s)
  k : ∀ it s ctx, OKI W it → (K env it s ctx).Meets B (R false s)
  first : ∀ it s ctx ist s1 em s' ist' em', OKI W it → it.first1 cd = true → K env it s ctx = .ok ist s1 em →
    N env it s1 ctx ist = .done s' ist' em' → R true s s'
  defs : ∀ k dd, env.defs[k]? = some dd → cd k = true → dd.consumes cd = true

theorem first1_advances {cd : Nat → Bool} {it : It} (h : (it.first1 cd) = true) : (it.advances cd) = true := by
  cases it
  case repeated | separatedBy => exact (Bool.and_eq_true_iff.1 (Bool.and_eq_true_iff.1 h).1).1
  all_goals cases h

section claim
variable {cd : Nat → Bool} {env : Env} {W : Prop} {B : Nat → Prop} {R : Bool → SS → SS → Prop} {P : SRunner}
  {N : SNextRunner} {K : SMkRunner}

theorem Grade.step (hR : Grade env W R) {c d : Bool} {s0 s s' : SS} (h0 : R c s0 s) (h1 : R d s s') : R c s0 s' :=
  hR.weak (fun h => by rw [h]; rfl) (hR.trans h0 h1)

theorem Grade.step' (hR : Grade env W R) {c d : Bool} {s0 s s' : SS} (h0 : R c s0 s) (h1 : R d s s') : R d s0 s' :=
  hR.weak (fun h => by rw [h, Bool.or_true]) (hR.trans h0 h1)

theorem Grade.low (hR : Grade env W R) {c : Bool} {s s' : SS} (h : R c s s') : R false s s' := hR.weak nofun h

theorem sTokenPrim_meets (hR : Grade env W R) (s : SS) (accept : Nat → Option Val) :
    (sTokenPrim env s accept).Meets B (R true s) := by
  unfold sTokenPrim
  cases h : env.toks[s.pos]? with
  | none => trivial
  | some t => dsimp only; cases accept t <;> first | exact hR.tok h | trivial

theorem sJust_grade (hR : Grade env W R) :
    ∀ (ts : List Nat) (s s' : SS), sJust env ts s = some s' → R (!ts.isEmpty) s s'
  | [], s, s', h => Option.some.inj h ▸ hR.refl s
  | e :: es, s, s', h => by
    rw [sJust] at h
    cases ht : env.toks[s.pos]? with
    | none => rw [ht] at h; cases h
    | some t =>
      rw [ht] at h
      dsimp only at h
      split at h
      · exact hR.trans (hR.tok ht) (sJust_grade hR es _ s' h)
      · cases h

theorem sJust_meets (hR : Grade env W R) (ts : List Nat) (v : Val) (s : SS) :
    (match sJust env ts s with
      | some s' => SOut.ok v s' []
      | none => .fail).Meets B (R (!ts.isEmpty) s) := by
  cases h : sJust env ts s with
  | none => trivial
  | some s' => exact sJust_grade hR ts s s' h

theorem sCustom_meets (hR : Grade env W R) (f : CustomFn) (s : SS) :
    (sCustom env f s).Meets B (R ((G.custom f).consumes cd) s) := by
  cases f
  case next =>
    unfold sCustom
    cases h : env.toks[s.pos]? with
    | none => trivial
    | some t => exact hR.tok h
  case nothing => exact hR.refl s
  all_goals trivial

/-! ### the loops

  Each keeps `R c s0 s` for its current position `s`; `hB`: the no-progress assertion is among the panics. -/

theorem sChoice_meets (hR : Grade env W R) (H : Claim cd env W B R P N K) (ctx : Val) (s : SS) :
    ∀ gs, OKL W gs → (sChoice P env ctx s gs).Meets B (R (consumesAll cd gs) s)
  | [], _ => trivial
  | g :: gs, hl => by
    rw [sChoice]
    exact (H.p g s ctx (ok_left hl)).cases (fun _ _ _ h => hR.weak (fun hc => (Bool.and_eq_true_iff.1 hc).1) h)
      ((sChoice_meets hR H ctx s gs (ok_right hl)).mono fun _ => hR.weak fun hc => (Bool.and_eq_true_iff.1 hc).2)
      (fun _ h => h) trivial

theorem sGroup_meets (hR : Grade env W R) (H : Claim cd env W B R P N K) (ctx : Val) (s0 : SS) :
    ∀ gs s acc em (b : Bool), OKL W gs → R b s0 s →
      (sGroup P env ctx gs s acc em).Meets B (R (b || consumesAny cd gs) s0)
  | [], _, _, _, b, _, h0 => hR.weak (fun h => by rw [← h]; exact (Bool.or_false b).symm) h0
  | g :: gs, s, acc, em, b, hl, h0 => by
    rw [sGroup]
    refine (H.p g s ctx (ok_left hl)).cases (fun v s' em' h => ?_) trivial (fun _ h => h) trivial
    have := sGroup_meets hR H ctx s0 gs s' (v :: acc) (em ++ em') _ (ok_right hl) (hR.trans h0 h)
    rwa [Bool.or_assoc] at this

theorem sCollectLoop_meets (hR : Grade env W R) (hB : B pNoProgress) (H : Claim cd env W B R P N K) (ctx : Val)
    (it : It) (hi : OKI W it) (k : CollKind) (s0 : SS) (c : Bool) :
    ∀ fuel s ist acc i em, R c s0 s → (sCollectLoop N env ctx it k fuel s ist acc i em).Meets B (R c s0)
  | 0, _, _, _, _, _, _ => trivial
  | fuel + 1, s, ist, acc, i, em, h0 => by
    rw [sCollectLoop]
    refine (H.n it s ctx ist hi).cases (fun _ _ _ _ h1 => ?_) (fun _ _ _ h1 => hR.step h0 h1) trivial (fun _ h => h)
      trivial
    dsimp only
    split
    · exact hB
    · exact sCollectLoop_meets hR hB H ctx it hi k s0 c fuel _ _ _ _ _ (hR.step h0 h1)

theorem sCollectLoop_first (hR : Grade env W R) (hB : B pNoProgress) (H : Claim cd env W B R P N K) (ctx : Val)
    (it : It) (hi : OKI W it) (k : CollKind) (hf : it.first1 cd = true) (hadv : it.advances cd = true) {s0 s : SS}
    {ist : ItSt} {em0 : List Emis} (hk : K env it s0 ctx = .ok ist s em0) (h0 : R false s0 s) (fuel : Nat)
    (acc : List Val) (i : Nat) (em : List Emis) :
    (sCollectLoop N env ctx it k fuel s ist acc i em).Meets B (R true s0) := by
  cases fuel with
  | zero => trivial
  | succ fuel =>
    have h1 := H.n it s ctx ist hi
    have h2 := H.first it s0 ctx ist s em0
    rw [sCollectLoop]
    generalize N env it s ctx ist = o at h1 h2
    cases o with
    | some v s1 ist1 e1 =>
      rw [hadv] at h1
      dsimp only
      split
      · exact hB
      · exact sCollectLoop_meets hR hB H ctx it hi k s0 true fuel _ _ _ _ _ (hR.step' h0 h1)
    | done s1 ist1 e1 => exact h2 _ _ _ hi hf hk rfl
    | fail => trivial
    | panic w => exact h1
    | oof => trivial

theorem sCollectExactlyLoop_meets (hR : Grade env W R) (H : Claim cd env W B R P N K) (ctx : Val) (it : It)
    (hi : OKI W it) (s0 : SS) :
    ∀ n s ist acc em, R false s0 s → (sCollectExactlyLoop N env ctx it n s ist acc em).Meets B (R false s0)
  | 0, _, _, _, _, h0 => h0
  | n + 1, s, ist, acc, em, h0 => by
    rw [sCollectExactlyLoop]
    exact (H.n it s ctx ist hi).cases
      (fun _ _ _ _ h1 => sCollectExactlyLoop_meets hR H ctx it hi s0 n _ _ _ _ (hR.step h0 h1))
      (fun _ _ _ _ => trivial) trivial (fun _ h => h) trivial

theorem sFoldlLoop_meets (hR : Grade env W R) (hB : B pNoProgress) (H : Claim cd env W B R P N K) (ctx : Val)
    (it : It) (hi : OKI W it) (f : Val → Val → SS → Val) (s0 : SS) (c : Bool) :
    ∀ fuel s ist acc em, R c s0 s → (sFoldlLoop N env ctx it f fuel s ist acc em).Meets B (R c s0)
  | 0, _, _, _, _, _ => trivial
  | fuel + 1, s, ist, acc, em, h0 => by
    rw [sFoldlLoop]
    refine (H.n it s ctx ist hi).cases (fun _ _ _ _ h1 => ?_) (fun _ _ _ h1 => hR.step h0 h1) trivial (fun _ h => h)
      trivial
    dsimp only
    split
    · exact hB
    · exact sFoldlLoop_meets hR hB H ctx it hi f s0 c fuel _ _ _ _ (hR.step h0 h1)

theorem sFoldrCollect_meets (hR : Grade env W R) (hB : B pNoProgress) (H : Claim cd env W B R P N K) (ctx : Val)
    (it : It) (hi : OKI W it) (s0 : SS) :
    ∀ fuel s ist acc em, R false s0 s → FoldrMeets B (R false s0) (sFoldrCollect N env ctx it fuel s ist acc em)
  | 0, _, _, _, _, _ => trivial
  | fuel + 1, s, ist, acc, em, h0 => by
    rw [sFoldrCollect]
    refine (H.n it s ctx ist hi).cases (fun _ _ _ _ h1 => ?_) (fun _ _ _ h1 => hR.step h0 h1) trivial (fun _ h => h)
      trivial
    dsimp only
    split
    · exact hB
    · exact sFoldrCollect_meets hR hB H ctx it hi s0 fuel _ _ _ _ (hR.step h0 h1)

theorem sRepeatFast_meets (hR : Grade env W R) (hB : B pNoProgress) (H : Claim cd env W B R P N K) (ctx : Val) (a : G)
    (ha : OKG W a) (s0 : SS) :
    ∀ fuel s em, R false s0 s → (sRepeatFast P env ctx a fuel s em).Meets B (R false s0)
  | 0, _, _, _ => trivial
  | fuel + 1, s, em, h0 => by
    rw [sRepeatFast]
    refine (H.p a s ctx ha).cases (fun _ _ _ h1 => ?_) h0 (fun _ h => h) trivial
    dsimp only
    split
    · exact hB
    · exact sRepeatFast_meets hR hB H ctx a ha s0 fuel _ _ (hR.step h0 h1)

theorem sIterLoop_meets (hR : Grade env W R) (hB : B pNoProgress) (H : Claim cd env W B R P N K) (ctx : Val) (it : It)
    (hi : OKI W it) (ap : Bool) (s0 : SS) :
    ∀ fuel s ist em, R false s0 s → (sIterLoop N env ctx it ap fuel s ist em).Meets B (R false s0)
  | 0, _, _, _, _ => trivial
  | fuel + 1, s, ist, em, h0 => by
    rw [sIterLoop]
    refine (H.n it s ctx ist hi).cases (fun _ _ _ _ h1 => ?_) (fun _ _ _ h1 => hR.step h0 h1) trivial (fun _ h => h)
      trivial
    dsimp only
    split
    · exact hB
    · exact sIterLoop_meets hR hB H ctx it hi ap s0 fuel _ _ _ (hR.step h0 h1)

theorem sSkipUntil_meets (hR : Grade env W R) (H : Claim cd env W B R P N K) (ctx : Val) (skip until_ : G) (fb : Val)
    (hs : OKG W skip) (hu : OKG W until_) (s0 : SS) :
    ∀ fuel s em, R false s0 s → (sSkipUntil P env ctx skip until_ fb fuel s em).Meets B (R (until_.consumes cd) s0)
  | 0, _, _, _ => trivial
  | fuel + 1, s, em, h0 => by
    rw [sSkipUntil]
    refine (H.p until_ s ctx hu).cases (fun _ _ _ h1 => hR.step' h0 h1) ?_ (fun _ h => h) trivial
    exact (H.p skip s ctx hs).cases
      (fun _ _ _ h2 => sSkipUntil_meets hR H ctx skip until_ fb hs hu s0 fuel _ _ (hR.step h0 h2)) trivial
      (fun _ h => h) trivial

theorem sSkipRetry_meets (hR : Grade env W R) (H : Claim cd env W B R P N K) (ctx : Val) (a skip until_ : G)
    (ha : OKG W a) (hs : OKG W skip) (hu : OKG W until_) (s0 : SS) :
    ∀ fuel s em, R false s0 s → (sSkipRetry P env ctx a skip until_ fuel s em).Meets B (R (a.consumes cd) s0)
  | 0, _, _, _ => trivial
  | fuel + 1, s, em, h0 => by
    rw [sSkipRetry]
    refine (H.p until_ s ctx hu).cases (fun _ _ _ _ => trivial) ?_ (fun _ h => h) trivial
    refine (H.p skip s ctx hs).cases (fun _ s2 em2 h2 => ?_) trivial (fun _ h => h) trivial
    have again := sSkipRetry_meets hR H ctx a skip until_ ha hs hu s0 fuel s2 (em ++ em2) (hR.step h0 h2)
    dsimp only
    refine (H.p a s2 ctx ha).cases (fun _ _ em3 h3 => ?_) again (fun _ h => h) trivial
    cases em3 with
    | nil => exact hR.step' (hR.step h0 h2) h3
    | cons e es => exact again

theorem pegStep_meets (hR : Grade env W R) (hB : ∀ w, SpecPanic w → B w) (hdefs : ∀ d ∈ env.defs, OKG W d)
    (H : Claim cd env W B R P N K) (L : Nat) (g : G) (s : SS) (ctx : Val) (hg : OKG W g) :
    (pegStep P N K L env g s ctx).Meets B (R (g.consumes cd) s) := by
  have hNP : B pNoProgress := hB _ specPanic_noProgress
  -- a goal is the clause of `pegStep` for its constructor and the clause of `consumes`, both by computation; `hg` is
  -- the clause of `noStateScope`
  cases g
  case end_ => rw [pegStep_end]; cases env.toks[s.pos]? <;> first | exact hR.refl s | trivial
  case empty => exact hR.refl s
  case any | oneOf | noneOf | select => simp only [step_eqs]; exact sTokenPrim_meets hR s _
  case just ts => exact sJust_meets hR ts _ s
  case configureJust c ts =>
    cases c
    case seqFromCtx => exact (sJust_meets hR _ _ s).mono fun _ => hR.low
    all_goals exact sJust_meets hR ts _ s
  case custom f => exact sCustom_meets hR f s
  case todo => exact hB _ specPanic_todo
  case then_ a b | ignoreThen a b | thenIgnore a b | ignoreWithCtx a b | thenWithCtx a b =>
    exact (H.p a s ctx (ok_left hg)).andThen fun _ _ _ h1 =>
      (H.p b _ _ (ok_right hg)).andThen fun _ _ _ h2 => hR.trans h1 h2
  case delimitedBy a l r =>
    refine (H.p l s ctx (ok_left (ok_right hg))).andThen fun _ _ _ h1 => (H.p a _ ctx (ok_left hg)).andThen fun _ _ _ h2 =>
      (H.p r _ ctx (ok_right (ok_right hg))).andThen fun _ _ _ h3 => hR.weak ?_ (hR.trans (hR.trans h1 h2) h3)
    show (a.consumes cd || (l.consumes cd || r.consumes cd)) = true → _
    cases a.consumes cd <;> cases l.consumes cd <;> exact id
  case paddedBy a p =>
    refine (H.p p s ctx (ok_right hg)).andThen fun _ _ _ h1 => (H.p a _ ctx (ok_left hg)).andThen fun _ _ _ h2 =>
      (H.p p _ ctx (ok_right hg)).andThen fun _ _ _ h3 => hR.step (hR.weak ?_ (hR.trans h1 h2)) h3
    show (a.consumes cd || p.consumes cd) = true → _
    rw [Bool.or_comm]; exact id
  case group gs | groupArr gs => exact sGroup_meets hR H ctx s gs s [] [] false hg (hR.refl s)
  case or_ a b =>
    have hl : OKL W [a, b] := hg.imp_right fun h =>
      show (a.noStateScope && (b.noStateScope && true)) = true by rw [Bool.and_true]; exact h
    refine (sChoice_meets hR H ctx s [a, b] hl).mono fun _ => hR.weak ?_
    show (a.consumes cd && b.consumes cd) = true → (a.consumes cd && (b.consumes cd && true)) = true
    rw [Bool.and_true]; exact id
  case choice fl gs =>
    cases fl
    · cases gs
      · exact hB _ specPanic_illTyped
      · exact sChoice_meets hR H ctx s _ hg
    · exact sChoice_meets hR H ctx s _ hg
  case orNot a =>
    rw [pegStep_orNot]
    exact (H.p a s ctx hg).cases (fun _ _ _ h => hR.low h) (hR.refl s) (fun _ h => h) trivial
  case not_ a =>
    rw [pegStep_not]
    exact (H.p a s ctx hg).cases (fun _ _ _ _ => trivial) (hR.refl s) (fun _ h => h) trivial
  case andIs a b =>
    exact (H.p a s ctx (ok_left hg)).andThen fun _ _ _ h1 => (H.p b s ctx (ok_right hg)).andThen fun _ _ _ _ => h1
  case rewind a => exact (H.p a s ctx hg).andThen fun _ _ _ _ => hR.refl s
  case map _ a | to _ a | ignored a | toSpan a | toSlice a | mapWithSpan a | mapWithState a | mapWithCtx a
      | validate _ a | labelled _ _ a =>
    exact (H.p a s ctx hg).andThen fun _ _ _ h => h
  case filter _ a | tryMap _ a | tryMapWith _ a =>
    exact (H.p a s ctx hg).andThen fun _ _ _ h => by split <;> first | exact h | trivial
  case mapErr _ a | withCtx _ a | mapCtx _ a | memoized _ a | boxed a => exact H.p a _ _ hg
  case withState a =>
    -- the one place where the relation has to tolerate the inspector swap
    rcases hg with hw | hw
    · exact (H.p a ⟨s.pos, []⟩ ctx (Or.inl hw)).andThen fun _ _ _ h => hR.ws hw h
    · cases hw
  case collect k it =>
    have hk := H.k it s ctx hg
    rw [pegStep_collect]
    show SOut.Meets B (R (it.first1 cd) s) _
    cases hf : it.first1 cd with
    | false =>
      exact hk.cases (fun _ _ _ h => sCollectLoop_meets hR hNP H ctx it hg k s false L _ _ _ _ _ h) trivial (fun _ h => h)
        trivial
    | true =>
      cases hkk : K env it s ctx with
      | ok ist s1 em =>
        rw [hkk] at hk
        exact sCollectLoop_first hR hNP H ctx it hg k hf (first1_advances hf) hkk hk L [] 0 em
      | fail => trivial
      | panic w => rw [hkk] at hk; exact hk
      | oof => trivial
  case collectExactly n it =>
    rw [pegStep_collectExactly]
    exact (H.k it s ctx hg).cases (fun _ _ _ h => sCollectExactlyLoop_meets hR H ctx it hg s n _ _ _ _ h) trivial
      (fun _ h => h) trivial
  case foldl f a it | foldlWith a it =>
    refine (H.p a s ctx (ok_left hg)).andThen fun _ s1 _ h1 => ?_
    exact (H.k it s1 ctx (ok_right hg)).cases
      (fun _ _ _ h2 => sFoldlLoop_meets hR hNP H ctx it (ok_right hg) _ s _ L _ _ _ _ (hR.step h1 h2)) trivial
      (fun _ h => h) trivial
  case foldr f it b | foldrWith it b =>
    simp only [step_eqs]
    refine (H.k it s ctx (ok_left hg)).cases (fun ist s1 e1 hk => ?_) trivial (fun _ h => h) trivial
    have hf := sFoldrCollect_meets hR hNP H ctx it (ok_left hg) s L s1 ist [] e1 hk
    dsimp only
    generalize sFoldrCollect N env ctx it L s1 ist [] e1 = r at hf
    match r, hf with
    | .inr (.ok ..), hf => exact hf.elim
    | .inr .fail, _ => trivial
    | .inr (.panic _), hf => exact hf
    | .inr .oof, _ => trivial
    | .inl none, _ => trivial
    | .inl (some (items, s2, e2)), hf => exact (H.p b s2 ctx (ok_right hg)).andThen fun _ _ _ h3 => hR.step' hf h3
  case iterP it =>
    have loop : ∀ ap, (match K env it s ctx with
        | .ok ist s1 em => sIterLoop N env ctx it ap L s1 ist em
        | .fail => .fail
        | .panic w => .panic w
        | .oof => .oof).Meets B (R false s) := fun ap =>
      (H.k it s ctx hg).cases (fun _ _ _ h => sIterLoop_meets hR hNP H ctx it hg ap s L _ _ _ h) trivial (fun _ h => h)
        trivial
    cases it
    case repeated a lo hi' =>
      cases lo
      · cases hi'
        · exact sRepeatFast_meets hR hNP H ctx a hg s L s [] (hR.refl s)
        · exact loop true
      · exact loop true
    case separatedBy => exact loop true
    case configureRep | tryConfigureRep => exact loop false
    case intoIter a => exact (H.p a s ctx hg).andThen fun _ _ _ h => hR.low h
    all_goals exact hB _ specPanic_illTyped
  case recoverVia a r =>
    rw [pegStep_recoverVia]
    refine (H.p a s ctx (ok_left hg)).cases (fun _ _ _ h => hR.weak (fun hc => (Bool.and_eq_true_iff.1 hc).1) h) ?_
      (fun _ h => h) trivial
    exact (H.p r s ctx (ok_right hg)).cases (fun _ _ _ h => hR.weak (fun hc => (Bool.and_eq_true_iff.1 hc).2) h) trivial
      (fun _ h => h) trivial
  case recoverSkipUntil a skip until_ fb =>
    rw [pegStep_recoverSkipUntil]
    exact (H.p a s ctx (ok_left hg)).cases (fun _ _ _ h => hR.weak (fun hc => (Bool.and_eq_true_iff.1 hc).1) h)
      ((sSkipUntil_meets hR H ctx skip until_ fb (ok_left (ok_right hg)) (ok_right (ok_right hg)) s L s []
        (hR.refl s)).mono fun _ => hR.weak fun hc => (Bool.and_eq_true_iff.1 hc).2)
      (fun _ h => h) trivial
  case recoverSkipRetry a skip until_ =>
    rw [pegStep_recoverSkipRetry]
    exact (H.p a s ctx (ok_left hg)).cases (fun _ _ _ h => h)
      (sSkipRetry_meets hR H ctx a skip until_ (ok_left hg) (ok_left (ok_right hg)) (ok_right (ok_right hg)) s L s []
        (hR.refl s))
      (fun _ h => h) trivial
  case call k =>
    rw [pegStep_call]
    cases h : env.defs[k]? with
    | none => exact hB _ specPanic_undefined
    | some dd => exact (H.p dd s ctx (hdefs dd (List.mem_of_getElem? h))).mono fun _ => hR.weak (H.defs k dd h)

theorem pegMk_meets (hR : Grade env W R) (hp : ∀ g s ctx, OKG W g → (P env g s ctx).Meets B (R (g.consumes cd) s))
    (hk : ∀ it s ctx, OKI W it → (K env it s ctx).Meets B (R false s)) (it : It) (s : SS) (ctx : Val) (hi : OKI W it) :
    (pegMk P K env it s ctx).Meets B (R false s) := by
  cases it <;> rw [pegMk]
  case repeated | separatedBy | orNotIt => exact hR.refl s
  case enumerate inner | configureRep _ inner =>
    exact (hk inner s ctx hi).cases (fun _ _ _ h => h) trivial (fun _ h => h) trivial
  case thenIt a _ => exact (hk a s ctx (ok_left hi)).cases (fun _ _ _ h => h) trivial (fun _ h => h) trivial
  case intoIter a => exact (hp a s ctx hi).cases (fun _ _ _ h => hR.low h) trivial (fun _ h => h) trivial
  case mapIt f inner => exact hk inner s ctx hi
  case tryConfigureRep c inner =>
    cases ctx.asNat? with
    | none => trivial
    | some n => exact (hk inner s ctx hi).cases (fun _ _ _ h => h) trivial (fun _ h => h) trivial

theorem sRepeatedNext_meets (hR : Grade env W R) (H : Claim cd env W B R P N K) (ctx : Val) (a : G) (ha : OKG W a)
    (lo : Nat) (hi : Option Nat) (s : SS) (n : Nat) (wrap : ItSt → ItSt) :
    (sRepeatedNext P env ctx a lo hi s n wrap).Meets B (R (a.consumes cd) s) (R false s) :=
  sRepeatedNext_rule (X := SItOut.Meets B (R (a.consumes cd) s) (R false s)) (hR.refl s) trivial
    ((H.p a s ctx ha).cases (fun _ _ _ h => h) trivial (fun _ h => h) trivial)

theorem sSeparatedNext_meets (hR : Grade env W R) (H : Claim cd env W B R P N K) (ctx : Val) (a sep : G)
    (ha : OKG W a) (hs : OKG W sep) (lo : Nat) (hi : Option Nat) (lead trail : Bool) (s : SS) (n : Nat) :
    (sSeparatedNext P env ctx a sep lo hi lead trail s n).Meets B (R (a.consumes cd) s) (R false s) :=
  sSeparatedNext_rule (X := SItOut.Meets B (R (a.consumes cd) s) (R false s)) (R := R false s) (fun _ _ h => h) trivial
    (hR.refl s) ((H.p sep s ctx hs).cases (fun _ _ _ h => hR.low h) trivial (fun _ h => h) trivial)
    fun s0 _ h0 => (H.p a s0 ctx ha).cases (fun _ _ _ h => hR.step' h0 h) trivial (fun _ h => h) trivial

theorem pegNext_meets (hR : Grade env W R) (hB : ∀ w, SpecPanic w → B w) (H : Claim cd env W B R P N K) (it : It)
    (s : SS) (ctx : Val) (ist : ItSt) (hi : OKI W it) :
    (pegNext P N K env it s ctx ist).Meets B (R (it.advances cd) s) (R false s) := by
  unfold pegNext
  split
  · next a lo hi' n => exact sRepeatedNext_meets hR H ctx a hi _ _ s _ _
  · next a sep lo hi' lead trail n => exact sSeparatedNext_meets hR H ctx a sep (ok_left hi) (ok_right hi) _ _ _ _ s _
  · next inner k st =>
    exact (H.n inner s ctx st hi).cases (fun _ _ _ _ h => h) (fun _ _ _ h => h) trivial (fun _ h => h) trivial
  · next a b =>
    split
    · exact hR.refl s
    · exact (H.p a s ctx hi).cases (fun _ _ _ h => h) (hR.refl s) (fun _ h => h) trivial
  · split <;> exact hR.refl s
  · next a b sa sb? =>
    have wa : ∀ {s'}, R (a.advances cd) s s' → R (a.advances cd && b.advances cd) s s' :=
      hR.weak fun hc => (Bool.and_eq_true_iff.1 hc).1
    have wb : ∀ {s'}, R (b.advances cd) s s' → R (a.advances cd && b.advances cd) s s' :=
      hR.weak fun hc => (Bool.and_eq_true_iff.1 hc).2
    have ha : OKI W a := ok_left hi
    have hb : OKI W b := ok_right hi
    split
    · next sb =>
      exact (H.n b s ctx sb hb).cases (fun _ _ _ _ h => wb h) (fun _ _ _ h => h) trivial (fun _ h => h) trivial
    · refine (H.n a s ctx sa ha).cases (fun _ _ _ _ h => wa h) (fun s1 _ _ h1 => ?_) trivial (fun _ h => h) trivial
      dsimp only
      refine (H.k b s1 ctx hb).cases (fun sb s2 _ h2 => ?_) trivial (fun _ h => h) trivial
      dsimp only
      exact (H.n b s2 ctx sb hb).cases (fun _ _ _ _ h => wb (hR.step' (hR.step h1 h2) h))
        (fun _ _ _ h => hR.step (hR.step h1 h2) h) trivial (fun _ h => h) trivial
  · next f inner =>
    exact (H.n inner s ctx ist hi).cases (fun _ _ _ _ h => h) (fun _ _ _ h => h) trivial (fun _ h => h) trivial
  · next a lo hi' n clo chi => exact sRepeatedNext_meets hR H ctx a hi _ _ s _ _
  · next a lo hi' n clo chi => exact sRepeatedNext_meets hR H ctx a hi _ _ s _ _
  · exact hB _ specPanic_illTyped

theorem first1_not_done {P' : SRunner} {N' : SNextRunner} {K' : SMkRunner}
    (it : It) (s : SS) (ctx : Val) (ist : ItSt) (s1 : SS) (em : List Emis) (s' : SS) (ist' : ItSt) (em' : List Emis)
    (hf : (it.first1 cd) = true) (hk : pegMk P K env it s ctx = .ok ist s1 em) :
    pegNext P' N' K' env it s1 ctx ist ≠ .done s' ist' em' := by
  cases it
  case repeated a lo hi =>
    obtain ⟨h1, hcap⟩ := Bool.and_eq_true_iff.1 hf
    have hlo : ¬ 0 ≥ lo := Nat.not_le.2 (of_decide_eq_true (Bool.and_eq_true_iff.1 h1).2)
    cases hk
    rw [pegNext_repeated, sRepeatedNext, if_neg (by simpa using hcap)]
    cases P' env a s ctx <;> simp [hlo]
  case separatedBy a sep lo hi lead trail =>
    obtain ⟨h1, hcap⟩ := Bool.and_eq_true_iff.1 hf
    have hlo : 0 < lo := of_decide_eq_true (Bool.and_eq_true_iff.1 h1).2
    cases hk
    rw [pegNext_separatedBy]
    simp only [sSeparatedNext, if_neg (show ¬ capReached hi 0 = true by simpa using hcap)]
    cases lead <;> simp
    · cases P' env a s ctx <;> simp [hlo]
    · cases P' env sep s ctx <;> simp
      · rename_i v1 s1 e1
        cases P' env a s1 ctx <;> simp [hlo]
      · cases P' env a s ctx <;> simp [hlo]
  all_goals cases hf

end claim

/-- the annotation `cd` is justified: a definition annotated "consumes" has a body that consumes (under `cd`) -/
def CDefs (cd : Nat → Bool) (env : Env) : Prop :=
  ∀ k dd, env.defs[k]? = some dd → cd k = true → dd.consumes cd = true

/-- the annotation "no definition is known to consume" -/
def noCalls : Nat → Bool := fun _ => false

theorem cdefs_noCalls (env : Env) : CDefs noCalls env := fun _ _ _ h => nomatch h

theorem claim_all {cd : Nat → Bool} {env : Env} {W : Prop} {B : Nat → Prop} {R : Bool → SS → SS → Prop}
    (hR : Grade env W R) (hB : ∀ w, SpecPanic w → B w) (hdefs : ∀ d ∈ env.defs, OKG W d) (hcd : CDefs cd env) (n : Nat) :
    Claim cd env W B R (peg n) (pegNext' n) (pegMk' n) := by
  induction n with
  | zero =>
    exact ⟨fun _ _ _ _ => trivial, fun _ _ _ _ _ => trivial, fun _ _ _ _ => trivial,
      fun _ _ _ _ _ _ _ _ _ _ _ => nofun, hcd⟩
  | succ n ih =>
    exact ⟨pegStep_meets hR hB hdefs ih n, pegNext_meets hR hB ih, pegMk_meets hR ih.p ih.k,
      fun it s ctx ist s1 em s' ist' em' _ hf hk hd =>
        absurd hd (first1_not_done it s ctx ist s1 em s' ist' em' hf hk), hcd⟩

/-! ## invariants: relations that ignore the grade -/

/-- every successful result satisfies `Q` -/
def SOut.Sat (o : SOut) (Q : SS → Prop) : Prop :=
  match o with
  | .ok _ s' _ => Q s'
  | _ => True

def SItOut.Sat (o : SItOut) (Q : SS → Prop) : Prop :=
  match o with
  | .some _ s' _ _ => Q s'
  | .done s' _ _ => Q s'
  | _ => True

def SMkOut.Sat (o : SMkOut) (Q : SS → Prop) : Prop :=
  match o with
  | .ok _ s' _ => Q s'
  | _ => True

theorem SOut.sat_iff_meets {o : SOut} {Q : SS → Prop} : o.Sat Q ↔ o.Meets (fun _ => True) Q := by
  cases o <;> exact Iff.rfl

theorem SItOut.sat_iff_meets {o : SItOut} {Q : SS → Prop} : o.Sat Q ↔ o.Meets (fun _ => True) Q Q := by
  cases o <;> exact Iff.rfl

theorem SMkOut.sat_iff_meets {o : SMkOut} {Q : SS → Prop} : o.Sat Q ↔ o.Meets (fun _ => True) Q := by
  cases o <;> exact Iff.rfl

theorem SOut.Sat.mono {o : SOut} {Q Q' : SS → Prop} (h : o.Sat Q) (hq : ∀ s, Q s → Q' s) : o.Sat Q' :=
  sat_iff_meets.2 ((sat_iff_meets.1 h).mono hq)

theorem SOut.Sat.andThen {o : SOut} {k} {Q Q' : SS → Prop} (h : o.Sat Q)
    (hk : ∀ v s em, Q s → (k v s em).Sat Q') : (o.andThen k).Sat Q' :=
  sat_iff_meets.2 ((sat_iff_meets.1 h).andThen fun v s em hq => sat_iff_meets.1 (hk v s em hq))

theorem SOut.sat_iff {o : SOut} {Q : SS → Prop} : o.Sat Q ↔ ∀ v s' em, o = .ok v s' em → Q s' := by
  cases o with
  | ok v s em => exact ⟨fun h _ _ _ e => (SOut.ok.inj e).2.1 ▸ h, fun h => h v s em rfl⟩
  | _ => exact ⟨fun _ _ _ _ => nofun, fun _ => trivial⟩

theorem SOut.Sat.of_eq {o : SOut} {Q : SS → Prop} {v s em} (h : o.Sat Q) (e : o = .ok v s em) : Q s := by
  subst e; exact h

theorem SItOut.Sat.of_some {o : SItOut} {Q : SS → Prop} {v s i em} (h : o.Sat Q) (e : o = .some v s i em) : Q s := by
  subst e; exact h

theorem SItOut.Sat.of_done {o : SItOut} {Q : SS → Prop} {s i em} (h : o.Sat Q) (e : o = .done s i em) : Q s := by
  subst e; exact h

theorem SMkOut.Sat.of_eq {o : SMkOut} {Q : SS → Prop} {i s em} (h : o.Sat Q) (e : o = .ok i s em) : Q s := by
  subst e; exact h

theorem SOut.Sat.ite {c : Prop} [Decidable c] {a b : SOut} {Q : SS → Prop} (ht : c → a.Sat Q) (hf : ¬c → b.Sat Q) :
    (if c then a else b).Sat Q := by
  split
  · exact ht ‹_›
  · exact hf ‹_›

/-- a preorder on spec states containing the one-token step; `W` says whether `with_state` scopes are allowed
    (and then the relation must be insensitive to the inspector swap) -/
structure RelOK (env : Env) (W : Prop) (R : SS → SS → Prop) : Prop where
  refl : ∀ s, R s s
  trans : ∀ {a b c}, R a b → R b c → R a c
  tok : ∀ {s t}, env.toks[s.pos]? = some t → R s (s.adv t)
  ws : W → ∀ {s s1 : SS}, R ⟨s.pos, []⟩ s1 → R s ⟨s1.pos, s.insp⟩

def PInv (W : Prop) (R : SS → SS → Prop) (P : SRunner) (env : Env) : Prop :=
  ∀ g s ctx, OKG W g → (P env g s ctx).Sat (R s)
def NInv (W : Prop) (R : SS → SS → Prop) (N : SNextRunner) (env : Env) : Prop :=
  ∀ it s ctx ist, OKI W it → (N env it s ctx ist).Sat (R s)
def KInv (W : Prop) (R : SS → SS → Prop) (K : SMkRunner) (env : Env) : Prop :=
  ∀ it s ctx, OKI W it → (K env it s ctx).Sat (R s)

section
variable {env : Env} {W : Prop} {R : SS → SS → Prop} {P : SRunner} {N : SNextRunner} {K : SMkRunner}

theorem PInv.at (hR : RelOK env W R) (hP : PInv W R P env) {g : G} (hg : OKG W g) {s0 s : SS} (ctx : Val)
    (h0 : R s0 s) : (P env g s ctx).Sat (R s0) :=
  (hP g s ctx hg).mono fun _ h => hR.trans h0 h

theorem RelOK.grade (hR : RelOK env W R) : Grade env W fun _ => R :=
  ⟨hR.refl, hR.trans, fun _ h => h, hR.tok, fun w h => hR.ws w h⟩

theorem RelOK.claim (hR : RelOK env W R) (hP : PInv W R P env) (hN : NInv W R N env) (hK : KInv W R K env) :
    Claim noCalls env W (fun _ => True) (fun _ => R) P N K where
  p g s ctx hg := SOut.sat_iff_meets.1 (hP g s ctx hg)
  n it s ctx ist hi := SItOut.sat_iff_meets.1 (hN it s ctx ist hi)
  k it s ctx hi := SMkOut.sat_iff_meets.1 (hK it s ctx hi)
  first it s ctx ist _ _ _ _ _ hi _ hk hn := hR.trans ((hK it s ctx hi).of_eq hk) ((hN it _ ctx ist hi).of_done hn)
  defs _ _ _ := nofun

theorem pegStep_inv (hR : RelOK env W R) (hdefs : ∀ d ∈ env.defs, OKG W d)
    (hP : PInv W R P env) (hN : NInv W R N env) (hK : KInv W R K env) (L : Nat) :
    PInv W R (pegStep P N K L) env := fun g s ctx hg =>
  SOut.sat_iff_meets.2 (pegStep_meets hR.grade (fun _ _ => trivial) hdefs (hR.claim hP hN hK) L g s ctx hg)

theorem pegNext_inv (hR : RelOK env W R) (hP : PInv W R P env) (hN : NInv W R N env) (hK : KInv W R K env) :
    NInv W R (pegNext P N K) env := fun it s ctx ist hi =>
  SItOut.sat_iff_meets.2 (pegNext_meets hR.grade (fun _ _ => trivial) (hR.claim hP hN hK) it s ctx ist hi)

theorem pegMk_inv (hR : RelOK env W R) (hP : PInv W R P env) (hK : KInv W R K env) :
    KInv W R (pegMk P K) env := fun it s ctx hi =>
  SMkOut.sat_iff_meets.2 (pegMk_meets (cd := noCalls) hR.grade (fun g s ctx hg => SOut.sat_iff_meets.1 (hP g s ctx hg))
    (fun it s ctx hi => SMkOut.sat_iff_meets.1 (hK it s ctx hi)) it s ctx hi)

theorem peg_inv_all (hR : RelOK env W R) (hdefs : ∀ d ∈ env.defs, OKG W d) (n : Nat) :
    PInv W R (peg n) env ∧ NInv W R (pegNext' n) env ∧ KInv W R (pegMk' n) env :=
  have H := claim_all hR.grade (fun _ _ => trivial) hdefs (cdefs_noCalls env) n
  ⟨fun g s ctx hg => SOut.sat_iff_meets.2 (H.p g s ctx hg), fun it s ctx ist hi => SItOut.sat_iff_meets.2 (H.n it s ctx ist hi),
    fun it s ctx hi => SMkOut.sat_iff_meets.2 (H.k it s ctx hi)⟩

end

/-! ## (A) monotone, bounded position -/

/-- a spec result `s'` reachable from `s` -/
structure Adv (env : Env) (s s' : SS) : Prop where
  mono : s.pos ≤ s'.pos
  bound : s.pos ≤ env.toks.length → s'.pos ≤ env.toks.length

theorem adv_relOK (env : Env) : RelOK env True (Adv env) where
  refl s := ⟨Nat.le_refl _, id⟩
  trans h1 h2 := ⟨Nat.le_trans h1.mono h2.mono, fun h => h2.bound (h1.bound h)⟩
  tok := by
    intro s t h
    obtain ⟨hlt, _⟩ := List.getElem?_eq_some_iff.1 h
    exact ⟨Nat.le_succ _, fun _ => hlt⟩
  ws _ := by
    intro s s1 h
    exact ⟨h.mono, h.bound⟩

theorem adv_all (n : Nat) (env : Env) :
    PInv True (Adv env) (peg n) env ∧ NInv True (Adv env) (pegNext' n) env ∧ KInv True (Adv env) (pegMk' n) env :=
  peg_inv_all (adv_relOK env) (fun _ _ => Or.inl trivial) n

theorem peg_adv (n : Nat) (env : Env) (g : G) (s : SS) (ctx : Val) {v s' em} :
    peg n env g s ctx = .ok v s' em → Adv env s s' :=
  ((adv_all n env).1 g s ctx (Or.inl trivial)).of_eq

theorem pegNext'_adv_some (n : Nat) (env : Env) (it : It) (s : SS) (ctx : Val) (ist : ItSt) {v s' ist' em} :
    pegNext' n env it s ctx ist = .some v s' ist' em → Adv env s s' :=
  ((adv_all n env).2.1 it s ctx ist (Or.inl trivial)).of_some

theorem pegNext'_adv_done (n : Nat) (env : Env) (it : It) (s : SS) (ctx : Val) (ist : ItSt) {s' ist' em} :
    pegNext' n env it s ctx ist = .done s' ist' em → Adv env s s' :=
  ((adv_all n env).2.1 it s ctx ist (Or.inl trivial)).of_done

theorem pegMk'_adv (n : Nat) (env : Env) (it : It) (s : SS) (ctx : Val) {ist s' em} :
    pegMk' n env it s ctx = .ok ist s' em → Adv env s s' :=
  ((adv_all n env).2.2 it s ctx (Or.inl trivial)).of_eq

/-! ## (B) the inspector reflects exactly the consumed tokens (outside `with_state` scopes) -/

/-- `s'` extends `s` by exactly the tokens between the two positions -/
def Fed (env : Env) (s s' : SS) : Prop :=
  s.pos ≤ s'.pos ∧ s'.insp = s.insp ++ (env.toks.drop s.pos).take (s'.pos - s.pos)

theorem take_drop_chain (l : List Nat) {a b c : Nat} (hab : a ≤ b) (hbc : b ≤ c) :
    (l.drop a).take (b - a) ++ (l.drop b).take (c - b) = (l.drop a).take (c - a) := by
  obtain ⟨k, rfl⟩ := Nat.exists_eq_add_of_le hab
  obtain ⟨j, rfl⟩ := Nat.exists_eq_add_of_le hbc
  rw [Nat.add_sub_cancel_left, Nat.add_sub_cancel_left, Nat.add_assoc, Nat.add_sub_cancel_left, List.take_add,
    List.drop_drop]

theorem fed_relOK (env : Env) : RelOK env False (Fed env) where
  refl s := ⟨Nat.le_refl _, by simp⟩
  trans := by
    intro a b c h1 h2
    refine ⟨Nat.le_trans h1.1 h2.1, ?_⟩
    rw [h2.2, h1.2, List.append_assoc, take_drop_chain _ h1.1 h2.1]
  tok := by
    intro s t h
    refine ⟨Nat.le_succ _, ?_⟩
    have h1 : (s.adv t).pos - s.pos = 1 := by simp [SS.adv]
    rw [h1]
    simp [SS.adv, List.take_one, h]
  ws := fun h => h.elim

theorem fed_all (n : Nat) (env : Env) (hdefs : ∀ d ∈ env.defs, d.noStateScope = true) :
    PInv False (Fed env) (peg n) env ∧ NInv False (Fed env) (pegNext' n) env ∧ KInv False (Fed env) (pegMk' n) env :=
  peg_inv_all (fed_relOK env) (fun d hd => Or.inr (hdefs d hd)) n

/-- (B): the inspector of the result is the start inspector followed by the tokens consumed -/
theorem peg_fed' (n : Nat) (env : Env) (hdefs : ∀ d ∈ env.defs, d.noStateScope = true) (g : G)
    (hg : g.noStateScope = true) (s : SS) (ctx : Val) {v s' em} :
    peg n env g s ctx = .ok v s' em → Fed env s s' :=
  ((fed_all n env hdefs).1 g s ctx (Or.inr hg)).of_eq

theorem peg_fed (n : Nat) (env : Env) (hdefs : ∀ d ∈ env.defs, d.noStateScope = true) (g : G)
    (hg : g.noStateScope = true) (s : SS) (ctx : Val) (hs : s.pos ≤ env.toks.length) {v s' em} :
    peg n env g s ctx = .ok v s' em → Fed env s s' :=
  peg_fed' n env hdefs g hg s ctx

theorem pegNext'_fed_some (n : Nat) (env : Env) (hdefs : ∀ d ∈ env.defs, d.noStateScope = true) (it : It)
    (hi : it.noStateScope = true) (s : SS) (ctx : Val) (ist : ItSt) {v s' ist' em} :
    pegNext' n env it s ctx ist = .some v s' ist' em → Fed env s s' :=
  ((fed_all n env hdefs).2.1 it s ctx ist (Or.inr hi)).of_some

theorem pegNext'_fed_done (n : Nat) (env : Env) (hdefs : ∀ d ∈ env.defs, d.noStateScope = true) (it : It)
    (hi : it.noStateScope = true) (s : SS) (ctx : Val) (ist : ItSt) {s' ist' em} :
    pegNext' n env it s ctx ist = .done s' ist' em → Fed env s s' :=
  ((fed_all n env hdefs).2.1 it s ctx ist (Or.inr hi)).of_done

theorem pegMk'_fed (n : Nat) (env : Env) (hdefs : ∀ d ∈ env.defs, d.noStateScope = true) (it : It)
    (hi : it.noStateScope = true) (s : SS) (ctx : Val) {ist s' em} :
    pegMk' n env it s ctx = .ok ist s' em → Fed env s s' :=
  ((fed_all n env hdefs).2.2 it s ctx (Or.inr hi)).of_eq

theorem peg_insp_prefix (n : Nat) (env : Env) (hdefs : ∀ d ∈ env.defs, d.noStateScope = true) (g : G)
    (hg : g.noStateScope = true) (ctx : Val) {s : SS} {v s' em} (hs : s.pos ≤ env.toks.length)
    (hi : s.insp = env.toks.take s.pos) :
    peg n env g s ctx = .ok v s' em → s'.insp = env.toks.take s'.pos := by
  intro h
  obtain ⟨h1, h2⟩ := peg_fed' n env hdefs g hg s ctx h
  have h3 : s'.pos = s.pos + (s'.pos - s.pos) := by omega
  rw [h2, hi, h3, List.take_add]
  congr 2
  omega

theorem peg_thenIgnore_end (n : Nat) (env : Env) (g : G) (s : SS) (ctx : Val) {v s' em} :
    peg n env (.thenIgnore g .end_) s ctx = .ok v s' em → env.toks[s'.pos]? = none := by
  intro h
  cases n with
  | zero => cases h
  | succ n =>
    rw [peg, pegStep_thenIgnore] at h
    cases h1 : peg n env g s ctx with
    | ok va s1 e1 =>
      rw [h1] at h
      cases n with
      | zero => cases h
      | succ n =>
        rw [SOut.andThen, peg, pegStep_end] at h
        cases h2 : env.toks[s1.pos]? with
        | none => rw [h2] at h; cases h; exact h2
        | some t => rw [h2] at h; cases h
    | _ => rw [h1] at h; cases h

/-- top level, position only: no syntactic hypothesis needed -/
theorem pegTop_pos (n : Nat) (env : Env) (g : G) {v s' em} (h : pegTop n env g = .ok v s' em) :
    s'.pos = env.toks.length := by
  unfold pegTop at h
  have h2 := (peg_adv n env _ _ _ h).bound (Nat.zero_le _)
  have h4 : env.toks.length ≤ s'.pos := by simpa using peg_thenIgnore_end n env g _ _ h
  exact Nat.le_antisymm h2 h4

/-- top level: a successful parse has consumed the whole input and the inspector has seen all of it -/
theorem pegTop_insp (n : Nat) (env : Env) (g : G) {v s' em} (h : pegTop n env g = .ok v s' em)
    (hg : g.noStateScope = true) (hdefs : ∀ d ∈ env.defs, d.noStateScope = true) :
    s'.insp = env.toks ∧ s'.pos = env.toks.length := by
  have hp := pegTop_pos n env g h
  have hi := peg_insp_prefix n env hdefs (.thenIgnore g .end_) (Bool.and_eq_true_iff.2 ⟨hg, rfl⟩) .unit
    (s := ⟨0, []⟩) (Nat.zero_le _) rfl h
  exact ⟨by rw [hi, hp, List.take_length], hp⟩

/-! ## (C) `with_state`: fresh inspector inside, outer inspector untouched -/

theorem peg_withState (n : Nat) (env : Env) (a : G) (s : SS) (ctx : Val) :
    peg (n + 1) env (.withState a) s ctx =
      match peg n env a ⟨s.pos, []⟩ ctx with
      | .ok v s1 e1 => .ok v ⟨s1.pos, s.insp⟩ e1
      | o => o := by
  simp only [peg, step_eqs]
  cases peg n env a ⟨s.pos, []⟩ ctx <;> rfl

theorem peg_withState_insp (n : Nat) (env : Env) (a : G) (s : SS) (ctx : Val) {v s' em} :
    peg n env (.withState a) s ctx = .ok v s' em → s'.insp = s.insp := by
  cases n with
  | zero => simp [peg]
  | succ n =>
    rw [peg_withState]
    cases peg n env a ⟨s.pos, []⟩ ctx <;> simp
    rintro _ rfl _
    rfl

theorem peg_withState_inner (n : Nat) (env : Env) (hdefs : ∀ d ∈ env.defs, d.noStateScope = true) (a : G)
    (ha : a.noStateScope = true) (s : SS) (ctx : Val) {v s1 e1} :
    peg n env a ⟨s.pos, []⟩ ctx = .ok v s1 e1 →
      s.pos ≤ s1.pos ∧ s1.insp = (env.toks.drop s.pos).take (s1.pos - s.pos) := by
  intro h
  simpa [Fed] using peg_fed' n env hdefs a ha ⟨s.pos, []⟩ ctx h

/-! ## any grammar (with or without `with_state`): the inspector only grows -/

theorem inspExt_relOK (env : Env) : RelOK env True (fun s s' => s.insp <+: s'.insp) where
  refl s := List.prefix_refl _
  trans h1 h2 := List.IsPrefix.trans h1 h2
  tok := by intro s t _; exact List.prefix_append _ _
  ws _ := by intro s s1 _; exact List.prefix_refl _

theorem peg_insp_ext (n : Nat) (env : Env) (g : G) (s : SS) (ctx : Val) {v s' em} :
    peg n env g s ctx = .ok v s' em → s.insp <+: s'.insp :=
  ((peg_inv_all (inspExt_relOK env) (fun _ _ => Or.inl trivial) n).1 g s ctx (Or.inl trivial)).of_eq

#print axioms peg_adv
#print axioms pegNext'_adv_some
#print axioms pegNext'_adv_done
#print axioms pegMk'_adv
#print axioms peg_fed
#print axioms peg_insp_prefix
#print axioms pegTop_insp
#print axioms pegTop_pos
#print axioms peg_withState
#print axioms peg_withState_insp
#print axioms peg_withState_inner
#print axioms peg_insp_ext

end Chumsky
