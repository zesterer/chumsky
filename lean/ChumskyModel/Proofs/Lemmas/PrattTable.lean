/-
  The operator table of `atom.pratt(ops)`. One pass over the table (prefix, postfix or infix operators) tries the
  operators in declaration order: each attempt either ends the pass with a result or, having failed, leaves the turn to
  the next operator. In the reading a pass is `List.findSome?` of the attempt; in the machine it is a fold (`tablePass`)
  that also threads the state, rewound after every failed attempt. An attempt is the operator's parser alone (postfix)
  or followed by the operand (prefix, infix); the loop and `pratt_go` sequence the result of a pass with `andThen`.
  A property of Pratt parsers is proved for the two kinds of attempt and carried over the passes by the lemmas here.
-/
import ChumskyModel.Model.Pratt
namespace Chumsky

/-- a failed attempt leaves the turn to the next operator of the table; any other result ends the pass -/
def SOut.attempt : SOut → Option SOut
  | .fail => none
  | o => some o

theorem SOut.attempt_eq_some {o so : SOut} : o.attempt = some so ↔ so = o ∧ o ≠ .fail := by
  cases o <;> simp [attempt, eq_comm]

theorem SOut.attempt_eq_none {o : SOut} : o.attempt = none ↔ o = .fail := by
  cases o <;> simp [attempt]

/-- an operator alone; `f` folds its value and the span that starts at `start` -/
def sPrattOperator (P : G → SS → SOut) (env : Env) (start : Nat) (f : Val → Nat × Nat → Val) (op : G) (s : SS) : SOut :=
  (P op s).andThen fun opv s1 e1 => .ok (f opv (env.mkSpan start s1.pos)) s1 e1

/-- an operator, then its right operand at power `p` -/
def sPrattOperand (P : G → SS → SOut) (rec : Nat → SS → SOut) (env : Env) (start : Nat)
    (f : Val → Val → Nat × Nat → Val) (op : G) (p : Nat) (s : SS) : SOut :=
  (P op s).andThen fun opv s1 e1 => (rec p s1).andThen fun rhs s2 e2 =>
    .ok (f opv rhs (env.mkSpan start s2.pos)) s2 (e1 ++ e2)

theorem SOut.andThen_eq_ok {o : SOut} {k : Val → SS → List Emis → SOut} {v s em} (h : o.andThen k = .ok v s em) :
    ∃ v1 s1 e1, o = .ok v1 s1 e1 ∧ k v1 s1 e1 = .ok v s em := by
  cases o with
  | ok v1 s1 e1 => exact ⟨v1, s1, e1, rfl, h⟩
  | _ => cases h

section Attempt
variable {P : G → SS → SOut} {rec : Nat → SS → SOut} {env : Env} {start : Nat} {op : G} {p : Nat} {s s' : SS} {v : Val}
  {em : List Emis}

theorem sPrattOperator_eq_ok {f : Val → Nat × Nat → Val} (h : sPrattOperator P env start f op s = .ok v s' em) :
    ∃ opv, P op s = .ok opv s' em ∧ v = f opv (env.mkSpan start s'.pos) := by
  obtain ⟨opv, s1, e1, h1, h⟩ := SOut.andThen_eq_ok h
  cases h
  exact ⟨opv, h1, rfl⟩

theorem sPrattOperand_eq_ok {f : Val → Val → Nat × Nat → Val} (h : sPrattOperand P rec env start f op p s = .ok v s' em) :
    ∃ opv s1 e1 rhs e2, P op s = .ok opv s1 e1 ∧ rec p s1 = .ok rhs s' e2 ∧ v = f opv rhs (env.mkSpan start s'.pos) ∧
      em = e1 ++ e2 := by
  obtain ⟨opv, s1, e1, h1, h⟩ := SOut.andThen_eq_ok h
  obtain ⟨rhs, s2, e2, h2, h⟩ := SOut.andThen_eq_ok h
  cases h
  exact ⟨opv, s1, e1, rhs, e2, h1, h2, rfl, rfl⟩

theorem sPrattOperator_eq_fail {f : Val → Nat × Nat → Val} : sPrattOperator P env start f op s = .fail ↔ P op s = .fail := by
  unfold sPrattOperator
  cases P op s <;> simp [SOut.andThen]

/-- an operator whose right operand cannot be parsed has failed like one that does not match -/
theorem sPrattOperand_eq_fail {f : Val → Val → Nat × Nat → Val} : sPrattOperand P rec env start f op p s = .fail ↔
    P op s = .fail ∨ ∃ opv s1 e1, P op s = .ok opv s1 e1 ∧ rec p s1 = .fail := by
  unfold sPrattOperand
  constructor
  · intro h
    cases hP : P op s with
    | ok opv s1 e1 =>
      rw [hP] at h
      cases hr : rec p s1 with
      | fail => exact .inr ⟨opv, s1, e1, rfl, hr⟩
      | _ => simp only [SOut.andThen, hr] at h; cases h
    | fail => exact .inl rfl
    | _ => rw [hP] at h; cases h
  · rintro (h | ⟨opv, s1, e1, h1, h2⟩)
    · rw [h]; rfl
    · simp only [h1, SOut.andThen, h2]

end Attempt

section Reading
variable (P : G → SS → SOut) (rec : Nat → SS → SOut) (env : Env) (start : SS) (minP : Nat) (lhs : Val) (s : SS)

def sPrattPrefixTry : PrattOp → Option SOut
  | .prefix bp op => (sPrattOperand P rec env start.pos foldPrefix op (2 * bp) start).attempt
  | _ => none

def sPrattPostfixTry : PrattOp → Option SOut
  | .postfix bp op =>
    if 2 * bp + 1 ≥ minP then (sPrattOperator P env start.pos (foldPostfix lhs) op s).attempt else none
  | _ => none

def sPrattInfixTry : PrattOp → Option SOut
  | .infix la bp op =>
    if leftPower la bp ≥ minP then (sPrattOperand P rec env start.pos (foldInfix lhs) op (rightPower la bp) s).attempt
    else none
  | _ => none

theorem sPrattPrefix_eq (ops : List PrattOp) :
    sPrattPrefix P rec env start ops = ops.findSome? (sPrattPrefixTry P rec env start) := by
  induction ops with
  | nil => rfl
  | cons o rest ih =>
    cases o with
    | «prefix» bp op =>
      rw [sPrattPrefix, List.findSome?_cons, sPrattPrefixTry, sPrattOperand, ← ih]
      cases P op start with
      | ok opv s1 e1 => dsimp only [SOut.andThen]; cases rec (2 * bp) s1 <;> rfl
      | _ => rfl
    | _ => exact ih

theorem sPrattPostfix_eq (ops : List PrattOp) :
    sPrattPostfix P env start minP lhs s ops = ops.findSome? (sPrattPostfixTry P env start minP lhs s) := by
  induction ops with
  | nil => rfl
  | cons o rest ih =>
    cases o with
    | «postfix» bp op =>
      rw [sPrattPostfix, List.findSome?_cons, sPrattPostfixTry, ← ih]
      by_cases h : 2 * bp + 1 ≥ minP
      · rw [if_pos h, if_pos h, sPrattOperator]
        cases P op s <;> rfl
      · rw [if_neg h, if_neg h]
    | _ => exact ih

theorem sPrattInfix_eq (ops : List PrattOp) :
    sPrattInfix P rec env start minP lhs s ops = ops.findSome? (sPrattInfixTry P rec env start minP lhs s) := by
  induction ops with
  | nil => rfl
  | cons o rest ih =>
    cases o with
    | «infix» la bp op =>
      rw [sPrattInfix, List.findSome?_cons, sPrattInfixTry, ← ih]
      by_cases h : leftPower la bp ≥ minP
      · rw [if_pos h, if_pos h, sPrattOperand]
        cases P op s with
        | ok opv s1 e1 => dsimp only [SOut.andThen]; cases rec (rightPower la bp) s1 <;> rfl
        | _ => rfl
      · rw [if_neg h, if_neg h]
    | _ => exact ih

variable {P rec env start minP lhs s} {ops : List PrattOp} {o : SOut}

theorem sPrattPrefix_some (h : sPrattPrefix P rec env start ops = some o) :
    ∃ bp op, .prefix bp op ∈ ops ∧ o = sPrattOperand P rec env start.pos foldPrefix op (2 * bp) start := by
  rw [sPrattPrefix_eq] at h
  obtain ⟨a, ha, h⟩ := List.exists_of_findSome?_eq_some h
  cases a with
  | «prefix» bp op => exact ⟨bp, op, ha, (SOut.attempt_eq_some.1 h).1⟩
  | _ => cases h

theorem sPrattPostfix_some (h : sPrattPostfix P env start minP lhs s ops = some o) :
    ∃ bp op, .postfix bp op ∈ ops ∧ 2 * bp + 1 ≥ minP ∧ o = sPrattOperator P env start.pos (foldPostfix lhs) op s := by
  rw [sPrattPostfix_eq] at h
  obtain ⟨a, ha, h⟩ := List.exists_of_findSome?_eq_some h
  cases a with
  | «postfix» bp op =>
    rw [sPrattPostfixTry] at h
    by_cases hp : 2 * bp + 1 ≥ minP
    · exact ⟨bp, op, ha, hp, (SOut.attempt_eq_some.1 ((if_pos hp).symm.trans h)).1⟩
    · cases (if_neg hp).symm.trans h
  | _ => cases h

theorem sPrattInfix_some (h : sPrattInfix P rec env start minP lhs s ops = some o) :
    ∃ la bp op, .infix la bp op ∈ ops ∧ leftPower la bp ≥ minP ∧
      o = sPrattOperand P rec env start.pos (foldInfix lhs) op (rightPower la bp) s := by
  rw [sPrattInfix_eq] at h
  obtain ⟨a, ha, h⟩ := List.exists_of_findSome?_eq_some h
  cases a with
  | «infix» la bp op =>
    rw [sPrattInfixTry] at h
    by_cases hp : leftPower la bp ≥ minP
    · exact ⟨la, bp, op, ha, hp, (SOut.attempt_eq_some.1 ((if_pos hp).symm.trans h)).1⟩
    · cases (if_neg hp).symm.trans h
  | _ => cases h

theorem sPrattRound_some
    (h : (sPrattPostfix P env start minP lhs s ops).or (sPrattInfix P rec env start minP lhs s ops) = some o) :
    (∃ bp op, .postfix bp op ∈ ops ∧ 2 * bp + 1 ≥ minP ∧ o = sPrattOperator P env start.pos (foldPostfix lhs) op s) ∨
      ∃ la bp op, .infix la bp op ∈ ops ∧ leftPower la bp ≥ minP ∧
        o = sPrattOperand P rec env start.pos (foldInfix lhs) op (rightPower la bp) s :=
  (Option.or_eq_some_iff.1 h).imp sPrattPostfix_some fun h => sPrattInfix_some h.2

theorem sPrattPostfix_eq_none : sPrattPostfix P env start minP lhs s ops = none ↔
    ∀ bp op, .postfix bp op ∈ ops → 2 * bp + 1 ≥ minP → P op s = .fail := by
  rw [sPrattPostfix_eq, List.findSome?_eq_none_iff]
  constructor
  · intro h bp op hm hp
    exact sPrattOperator_eq_fail.1 (SOut.attempt_eq_none.1 ((if_pos hp).symm.trans (h _ hm)))
  · intro h a ha
    cases a with
    | «postfix» bp op =>
      rw [sPrattPostfixTry]
      by_cases hp : 2 * bp + 1 ≥ minP
      · rw [if_pos hp]; exact SOut.attempt_eq_none.2 (sPrattOperator_eq_fail.2 (h bp op ha hp))
      · exact if_neg hp
    | _ => rfl

theorem sPrattInfix_eq_none : sPrattInfix P rec env start minP lhs s ops = none ↔
    ∀ la bp op, .infix la bp op ∈ ops → leftPower la bp ≥ minP →
      P op s = .fail ∨ ∃ opv s1 e1, P op s = .ok opv s1 e1 ∧ rec (rightPower la bp) s1 = .fail := by
  rw [sPrattInfix_eq, List.findSome?_eq_none_iff]
  constructor
  · intro h la bp op hm hp
    exact sPrattOperand_eq_fail.1 (SOut.attempt_eq_none.1 ((if_pos hp).symm.trans (h _ hm)))
  · intro h a ha
    cases a with
    | «infix» la bp op =>
      rw [sPrattInfixTry]
      by_cases hp : leftPower la bp ≥ minP
      · rw [if_pos hp]; exact SOut.attempt_eq_none.2 (sPrattOperand_eq_fail.2 (h la bp op ha hp))
      · exact if_neg hp
    | _ => rfl

variable (P rec env start minP lhs s ops) (atom : G)

theorem sPrattLoop_succ (k : Nat) (em : List Emis) :
    sPrattLoop P rec env ops start minP (k + 1) s lhs em =
      match (sPrattPostfix P env start minP lhs s ops).or (sPrattInfix P rec env start minP lhs s ops) with
      | some o => o.andThen fun v s1 e1 => sPrattLoop P rec env ops start minP k s1 v (em ++ e1)
      | none => .ok lhs s em := by
  rw [sPrattLoop]
  cases sPrattPostfix P env start minP lhs s ops with
  | some o => cases o <;> rfl
  | none =>
    cases sPrattInfix P rec env start minP lhs s ops with
    | some o => cases o <;> rfl
    | none => rfl

theorem sPratt_succ (k : Nat) :
    sPratt P env atom ops (k + 1) minP s =
      ((sPrattPrefix P (sPratt P env atom ops k) env s ops).getD (P atom s)).andThen fun v s1 e1 =>
        sPrattLoop P (sPratt P env atom ops k) env ops s minP k s1 v e1 := by
  rw [sPratt]
  cases sPrattPrefix P (sPratt P env atom ops k) env s ops with
  | some o => cases o <;> rfl
  | none => cases P atom s <;> rfl

variable {P rec env start minP ops atom} {v : Val} {s' : SS} {em' : List Emis}

/-- a successful run of the loop: what every round keeps (`I`) holds of the result, and the loop stopped where neither
    pass applies an operator -/
theorem sPrattLoop_ok {I : SS → Val → Prop}
    (hpost : ∀ {s lhs v s1 e1}, I s lhs → sPrattPostfix P env start minP lhs s ops = some (.ok v s1 e1) → I s1 v)
    (hinf : ∀ {s lhs v s1 e1}, I s lhs → sPrattInfix P rec env start minP lhs s ops = some (.ok v s1 e1) → I s1 v) :
    ∀ (k : Nat) {s : SS} {lhs : Val} {em : List Emis}, I s lhs →
      sPrattLoop P rec env ops start minP k s lhs em = .ok v s' em' →
      I s' v ∧ sPrattPostfix P env start minP v s' ops = none ∧ sPrattInfix P rec env start minP v s' ops = none
  | 0, _, _, _, _, h => by cases h
  | k + 1, s, lhs, em, hI, h => by
    rw [sPrattLoop_succ] at h
    cases hr : (sPrattPostfix P env start minP lhs s ops).or (sPrattInfix P rec env start minP lhs s ops) with
    | some o =>
      rw [hr] at h
      obtain ⟨v1, s1, e1, rfl, h⟩ := SOut.andThen_eq_ok h
      exact sPrattLoop_ok hpost hinf k ((Option.or_eq_some_iff.1 hr).elim (hpost hI) fun hh => hinf hI hh.2) h
    | none =>
      rw [hr] at h
      cases h
      exact ⟨hI, Option.or_eq_none_iff.1 hr⟩

theorem sPratt_ok {k : Nat} {s : SS} {em : List Emis} (h : sPratt P env atom ops (k + 1) minP s = .ok v s' em) :
    ∃ v1 s1 e1, (sPrattPrefix P (sPratt P env atom ops k) env s ops = some (.ok v1 s1 e1) ∨ P atom s = .ok v1 s1 e1) ∧
      sPrattLoop P (sPratt P env atom ops k) env ops s minP k s1 v1 e1 = .ok v s' em := by
  rw [sPratt_succ] at h
  obtain ⟨v1, s1, e1, h1, h⟩ := SOut.andThen_eq_ok h
  refine ⟨v1, s1, e1, ?_, h⟩
  cases hp : sPrattPrefix P (sPratt P env atom ops k) env s ops with
  | some o => rw [hp] at h1; exact .inl (congrArg some h1)
  | none => rw [hp] at h1; exact .inr h1

end Reading

/-- after a failed attempt the state is rewound to the checkpoint and the pass goes on -/
def Out.orRewind (c : Chk) : Out → Sum St Out
  | .fail st => .inl (st.rewind c)
  | o => .inr o

def prattOperator (R : Mode → G → St → Out) (env : Env) (m : Mode) (start : Nat) (f : Val → Nat × Nat → Val) (op : G)
    (st : St) : Out :=
  (R m op st).andThen fun opv st1 =>
    .ok (match m with | .emit => f opv (env.mkSpan start st1.pos) | .check => .unit) st1

def prattOperand (R : Mode → G → St → Out) (rec : Nat → St → Out) (env : Env) (m : Mode) (start : Nat)
    (f : Val → Val → Nat × Nat → Val) (op : G) (p : Nat) (st : St) : Out :=
  (R m op st).andThen fun opv st1 => (rec p st1).andThen fun rhs st2 =>
    .ok (match m with | .emit => f opv rhs (env.mkSpan start st2.pos) | .check => .unit) st2

/-- one pass: the attempts in turn, each from the state the one before left, until one gives a result -/
def tablePass (attempt : PrattOp → St → Sum St Out) : List PrattOp → St → Sum St Out
  | [], st => .inl st
  | o :: rest, st =>
    match attempt o st with
    | .inl st' => tablePass attempt rest st'
    | .inr r => .inr r

section Machine
variable (R : Mode → G → St → Out) (rec : Nat → St → Out) (env : Env) (m : Mode) (preExpr preOp : Chk) (minP : Nat)
  (lhs : Val)

def prattPrefixTry : PrattOp → St → Sum St Out
  | .prefix bp op, st => (prattOperand R rec env m preExpr.pos foldPrefix op (2 * bp) st).orRewind preExpr
  | _, st => .inl st

def prattPostfixTry : PrattOp → St → Sum St Out
  | .postfix bp op, st =>
    if 2 * bp + 1 ≥ minP then (prattOperator R env m preExpr.pos (foldPostfix lhs) op st).orRewind preOp else .inl st
  | _, st => .inl st

def prattInfixTry : PrattOp → St → Sum St Out
  | .infix la bp op, st =>
    if leftPower la bp ≥ minP then
      (prattOperand R rec env m preExpr.pos (foldInfix lhs) op (rightPower la bp) st).orRewind preOp
    else .inl st
  | _, st => .inl st

theorem prattPrefix_eq (ops : List PrattOp) (st : St) :
    prattPrefix R rec env m preExpr ops st = tablePass (prattPrefixTry R rec env m preExpr) ops st := by
  induction ops generalizing st with
  | nil => rfl
  | cons o rest ih =>
    cases o with
    | «prefix» bp op =>
      rw [prattPrefix, tablePass, prattPrefixTry, prattOperand]
      cases R m op st with
      | ok opv st1 => dsimp only [Out.andThen]; cases rec (2 * bp) st1 <;> first | rfl | exact ih _
      | fail st1 => exact ih _
      | _ => rfl
    | _ => exact ih st

theorem prattPostfix_eq (ops : List PrattOp) (st : St) :
    prattPostfix R env m preExpr preOp minP lhs ops st =
      tablePass (prattPostfixTry R env m preExpr preOp minP lhs) ops st := by
  induction ops generalizing st with
  | nil => rfl
  | cons o rest ih =>
    cases o with
    | «postfix» bp op =>
      rw [prattPostfix, tablePass, prattPostfixTry]
      by_cases h : 2 * bp + 1 ≥ minP
      · rw [if_pos h, if_pos h, prattOperator]
        cases R m op st <;> first | rfl | exact ih _
      · rw [if_neg h, if_neg h]; exact ih st
    | _ => exact ih st

theorem prattInfix_eq (ops : List PrattOp) (st : St) :
    prattInfix R rec env m preExpr preOp minP lhs ops st =
      tablePass (prattInfixTry R rec env m preExpr preOp minP lhs) ops st := by
  induction ops generalizing st with
  | nil => rfl
  | cons o rest ih =>
    cases o with
    | «infix» la bp op =>
      rw [prattInfix, tablePass, prattInfixTry]
      by_cases h : leftPower la bp ≥ minP
      · rw [if_pos h, if_pos h, prattOperand]
        cases R m op st with
        | ok opv st1 => dsimp only [Out.andThen]; cases rec (rightPower la bp) st1 <;> first | rfl | exact ih _
        | fail st1 => exact ih _
        | _ => rfl
      · rw [if_neg h, if_neg h]; exact ih st
    | _ => exact ih st

variable (ops : List PrattOp) (atom : G)

theorem prattLoop_succ (k : Nat) (st : St) :
    prattLoop R rec env m ops preExpr minP (k + 1) st lhs =
      match prattPostfix R env m preExpr st.save minP lhs ops st with
      | .inr o => o.andThen fun v st1 => prattLoop R rec env m ops preExpr minP k st1 v
      | .inl st1 =>
        match prattInfix R rec env m preExpr st.save minP lhs ops st1 with
        | .inr o => o.andThen fun v st2 => prattLoop R rec env m ops preExpr minP k st2 v
        | .inl st2 => .ok lhs (st2.rewind st.save) := by
  rw [prattLoop]
  cases prattPostfix R env m preExpr st.save minP lhs ops st with
  | inr o => cases o <;> rfl
  | inl st1 =>
    dsimp only
    cases prattInfix R rec env m preExpr st.save minP lhs ops st1 with
    | inr o => cases o <;> rfl
    | inl st2 => rfl

theorem prattGo_succ (k minP : Nat) (st : St) :
    prattGo R env m atom ops (k + 1) minP st =
      (match prattPrefix R (prattGo R env m atom ops k) env m st.save ops st with
        | .inr o => o
        | .inl st0 => R m atom st0).andThen fun v st1 =>
          prattLoop R (prattGo R env m atom ops k) env m ops st.save minP k st1 v := by
  rw [prattGo]
  cases prattPrefix R (prattGo R env m atom ops k) env m st.save ops st with
  | inr o => cases o <;> rfl
  | inl st0 => dsimp only; cases R m atom st0 <;> rfl

end Machine

section Pass
variable {attempt : PrattOp → St → Sum St Out} {ops : List PrattOp}

/-- what a pass leaves: `I` of the state when no operator applied, `Q` of the result -/
def PassSat (I : St → Prop) (Q : Out → Prop) : Sum St Out → Prop
  | .inl st => I st
  | .inr o => Q o

@[elab_as_elim]
theorem PassSat.cases {I : St → Prop} {Q : Out → Prop} {motive : Sum St Out → Prop} {r : Sum St Out}
    (h : PassSat I Q r) (inl : ∀ st, I st → motive (.inl st)) (inr : ∀ o, Q o → motive (.inr o)) : motive r := by
  cases r
  · exact inl _ h
  · exact inr _ h

theorem PassSat.ite {I : St → Prop} {Q : Out → Prop} {c : Prop} [Decidable c] {r r' : Sum St Out}
    (ht : c → PassSat I Q r) (hf : ¬c → PassSat I Q r') : PassSat I Q (if c then r else r') := by
  by_cases h : c
  · rw [if_pos h]; exact ht h
  · rw [if_neg h]; exact hf h

theorem tablePass_sat {I : St → Prop} {Q : Out → Prop}
    (h : ∀ o ∈ ops, ∀ st, I st → PassSat I Q (attempt o st)) {st : St} (h0 : I st) :
    PassSat I Q (tablePass attempt ops st) := by
  induction ops generalizing st with
  | nil => exact h0
  | cons o rest ih =>
    rw [tablePass]
    exact (h o (List.mem_cons_self ..) st h0).cases (fun st' h1 => ih (fun o ho => h o (List.mem_cons_of_mem _ ho)) h1)
      fun _ h1 => h1

/-- a pass of the machine against a pass of the reading: both give no result, or related results -/
def PassRel (I : St → Prop) (Rel : Out → SOut → Prop) : Sum St Out → Option SOut → Prop
  | .inl st, none => I st
  | .inr o, some so => Rel o so
  | _, _ => False

@[elab_as_elim]
theorem PassRel.cases {I : St → Prop} {Rel : Out → SOut → Prop} {motive : Sum St Out → Option SOut → Prop}
    {r : Sum St Out} {sr : Option SOut} (h : PassRel I Rel r sr) (inl : ∀ st, I st → motive (.inl st) none)
    (inr : ∀ o so, Rel o so → motive (.inr o) (some so)) : motive r sr := by
  cases r with
  | inl st => cases sr with
    | none => exact inl st h
    | some _ => exact h.elim
  | inr o => cases sr with
    | none => exact h.elim
    | some so => exact inr o so h

theorem PassRel.ite {I : St → Prop} {Rel : Out → SOut → Prop} {c : Prop} [Decidable c] {r r' : Sum St Out}
    {sr sr' : Option SOut} (ht : c → PassRel I Rel r sr) (hf : ¬c → PassRel I Rel r' sr') :
    PassRel I Rel (if c then r else r') (if c then sr else sr') := by
  by_cases h : c
  · rw [if_pos h, if_pos h]; exact ht h
  · rw [if_neg h, if_neg h]; exact hf h

theorem tablePass_rel {I : St → Prop} {Rel : Out → SOut → Prop} {sattempt : PrattOp → Option SOut}
    (h : ∀ o ∈ ops, ∀ st, I st → PassRel I Rel (attempt o st) (sattempt o)) {st : St} (h0 : I st) :
    PassRel I Rel (tablePass attempt ops st) (ops.findSome? sattempt) := by
  induction ops generalizing st with
  | nil => exact h0
  | cons o rest ih =>
    rw [tablePass, List.findSome?_cons]
    exact (h o (List.mem_cons_self ..) st h0).cases (fun st' h1 => ih (fun o ho => h o (List.mem_cons_of_mem _ ho)) h1)
      fun _ _ h1 => h1

theorem ite_map {α β : Type} (f : α → β) {c : Prop} [Decidable c] {a b : α} {a' b' : β} (ha : a' = f a) (hb : b' = f b) :
    (if c then a' else b') = f (if c then a else b) := by
  rw [ha, hb, apply_ite f]

theorem tablePass_map {attempt' : PrattOp → St → Sum St Out} {fo : PrattOp → PrattOp} {fs : St → St} {fr : Out → Out}
    (h : ∀ o st, attempt' (fo o) (fs st) = Sum.map fs fr (attempt o st)) (ops : List PrattOp) (st : St) :
    tablePass attempt' (ops.map fo) (fs st) = Sum.map fs fr (tablePass attempt ops st) := by
  induction ops generalizing st with
  | nil => rfl
  | cons o rest ih =>
    rw [List.map_cons, tablePass, tablePass, h]
    cases attempt o st with
    | inl st' => exact ih st'
    | inr r => rfl

theorem tablePass_map_id {attempt' : PrattOp → St → Sum St Out} {fs : St → St} {fr : Out → Out}
    (h : ∀ o st, attempt' o (fs st) = Sum.map fs fr (attempt o st)) (ops : List PrattOp) (st : St) :
    tablePass attempt' ops (fs st) = Sum.map fs fr (tablePass attempt ops st) := by
  have := tablePass_map (fo := id) h ops st
  rwa [List.map_id] at this

end Pass

end Chumsky
