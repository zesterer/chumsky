/-
  Proofs/Lemmas/ModeSim.lean — `check` mode simulates `emit` mode (C04).

  In `check` mode every value the machine returns is `Val.unit`; control flow, cursor, secondary
  errors, pending error (`alt`), inspector, context, memo table and ghost log are exactly those of
  `emit` mode.  Stated as: the `check` run equals the `emit` run with the value erased.  No hypothesis
  on the grammar.

  Layout: how erasure passes through sequencing (`Out.andThen_modeSim`, `Out.andThen_erase`), one lemma
  per loop helper (induction on its fuel / list argument, accumulators of values are unrelated across
  the two modes because the result is erased anyway; `foldlLoop` in `check` mode keeps a `unit`
  accumulator; `foldrCollect` returns the same items with erased values), then one `cases g` in
  `step_modeSim`: a sequencing combinator is an instance of the `andThen` lemmas, a combinator that
  inspects the outcome of its argument is settled outcome by outcome.
-/
import ChumskyModel.Proofs.Lemmas.StepEqns
namespace Chumsky

def Out.erase : Out → Out
  | .ok _ st => .ok .unit st
  | o => o

def ItOut.erase : ItOut → ItOut
  | .some _ st ist => .some .unit st ist
  | o => o

def ModeSimR (R : Runner) : Prop := ∀ env g st, R env .check g st = (R env .emit g st).erase
def ModeSimN (N : NextRunner) : Prop := ∀ env it st ist, N env .check it st ist = (N env .emit it st ist).erase
/-- `make_iter` runs sub-parsers in emit mode only (`into_iter`), so the two modes agree outright -/
def ModeSimK (K : MkRunner) : Prop := ∀ env it st, K env .check it st = K env .emit it st

@[simp] theorem Out.erase_ok (v : Val) (st : St) : (Out.ok v st).erase = .ok .unit st := rfl
@[simp] theorem Out.erase_fail (st : St) : (Out.fail st).erase = .fail st := rfl
@[simp] theorem Out.erase_panic (w : Nat) : (Out.panic w).erase = .panic w := rfl
@[simp] theorem Out.erase_oof : Out.oof.erase = .oof := rfl
@[simp] theorem ItOut.erase_some (v : Val) (st : St) (ist : ItSt) : (ItOut.some v st ist).erase = .some .unit st ist := rfl
@[simp] theorem ItOut.erase_done (st : St) (ist : ItSt) : (ItOut.done st ist).erase = .done st ist := rfl
@[simp] theorem ItOut.erase_fail (st : St) : (ItOut.fail st).erase = .fail st := rfl
@[simp] theorem ItOut.erase_panic (w : Nat) : (ItOut.panic w).erase = .panic w := rfl
@[simp] theorem ItOut.erase_oof : ItOut.oof.erase = .oof := rfl

theorem ite_erase {α : Type} (f : α → α) {c : Prop} [Decidable c] {a b x y : α}
    (h1 : a = f b) (h2 : x = f y) : (if c then a else x) = f (if c then b else y) := by
  by_cases hc : c
  · simp only [if_pos hc]; exact h1
  · simp only [if_neg hc]; exact h2

/-- sequencing, first parser run in the mode of the whole: the `check` continuation sees `unit` -/
theorem Out.andThen_modeSim {oc oe : Out} {kc ke : Val → St → Out} (ho : oc = oe.erase)
    (hk : ∀ v st, kc .unit st = (ke v st).erase) : oc.andThen kc = (oe.andThen ke).erase := by
  subst ho
  cases oe with
  | ok v st => exact hk v st
  | _ => rfl

/-- sequencing, first parser run in the same mode on both sides -/
theorem Out.andThen_erase {o : Out} {kc ke : Val → St → Out} (hk : ∀ v st, kc v st = (ke v st).erase) :
    o.andThen kc = (o.andThen ke).erase := by
  cases o with
  | ok v st => exact hk v st
  | _ => rfl

theorem Out.restoreCtx_modeSim {oc oe : Out} {ctx : Val} (ho : oc = oe.erase) :
    oc.restoreCtx ctx = (oe.restoreCtx ctx).erase := by
  subst ho
  cases oe <;> rfl

theorem tokenPrim_modeSim (env : Env) (st : St) (accept : Nat → Option Val) (exp : List Pat) :
    tokenPrim env .check st accept exp = (tokenPrim env .emit st accept exp).erase := by
  simp only [tokenPrim]
  cases (St.next env st).fst.bind accept <;> rfl

theorem runCustom_modeSim (env : Env) (f : CustomFn) (st : St) :
    runCustom env .check f st = (runCustom env .emit f st).erase := by
  cases f with
  | next msg =>
    simp only [runCustom]
    cases (St.next env st).fst <;> rfl
  | _ => rfl

theorem choiceTuple_modeSim {R : Runner} (hR : ModeSimR R) (env : Env) (c : Chk) : ∀ (gs : List G) (st : St),
    choiceTuple R env .check c gs st = (choiceTuple R env .emit c gs st).erase := by
  intro gs
  induction gs with
  | nil => intro st; rfl
  | cons g gs ih =>
    intro st
    simp only [choiceTuple, hR env g st]
    cases R env .emit g st with
    | fail st' => exact ih _
    | _ => rfl

theorem choiceSlice_modeSim {R : Runner} (hR : ModeSimR R) (env : Env) (c : Chk) : ∀ (gs : List G) (st : St),
    choiceSlice R env .check c gs st = (choiceSlice R env .emit c gs st).erase := by
  intro gs
  induction gs with
  | nil => intro st; rfl
  | cons g gs ih =>
    intro st
    simp only [choiceSlice, hR env g (st.rewind c)]
    cases R env .emit g (st.rewind c) with
    | fail st' => exact ih _
    | _ => rfl

theorem groupLoop_modeSim {R : Runner} (hR : ModeSimR R) (env : Env) : ∀ (gs : List G) (st : St) (acc acc' : List Val),
    groupLoop R env .check gs st acc = (groupLoop R env .emit gs st acc').erase := by
  intro gs
  induction gs with
  | nil => intro st acc acc'; rfl
  | cons g gs ih =>
    intro st acc acc'
    simp only [groupLoop, hR env g st]
    cases R env .emit g st with
    | ok v st' => exact ih _ _ _
    | _ => rfl

theorem collectLoop_modeSim {N : NextRunner} (hN : ModeSimN N) (env : Env) (it : It) (k : CollKind) :
    ∀ (fuel : Nat) (st : St) (ist : ItSt) (acc acc' : List Val) (i : Nat),
    collectLoop N env .check it k fuel st ist acc i = (collectLoop N env .emit it k fuel st ist acc' i).erase := by
  intro fuel
  induction fuel with
  | zero => intro st ist acc acc' i; rfl
  | succ fuel ih =>
    intro st ist acc acc' i
    simp only [collectLoop, hN env it st ist]
    cases N env .emit it st ist with
    | some v st' ist' => exact ite_erase Out.erase rfl (ih _ _ _ _ _)
    | _ => rfl

theorem collectExactlyLoop_modeSim {N : NextRunner} (hN : ModeSimN N) (env : Env) (it : It) :
    ∀ (n : Nat) (st : St) (ist : ItSt) (acc acc' : List Val),
    collectExactlyLoop N env .check it n st ist acc = (collectExactlyLoop N env .emit it n st ist acc').erase := by
  intro n
  induction n with
  | zero => intro st ist acc acc'; rfl
  | succ n ih =>
    intro st ist acc acc'
    simp only [collectExactlyLoop, hN env it st ist]
    cases N env .emit it st ist with
    | some v st' ist' => exact ih _ _ _ _
    | _ => rfl

theorem foldlLoop_modeSim {N : NextRunner} (hN : ModeSimN N) (env : Env) (it : It) (f f' : Val → Val → St → Val) :
    ∀ (fuel : Nat) (st : St) (ist : ItSt) (acc : Val),
    foldlLoop N env .check it f fuel st ist .unit = (foldlLoop N env .emit it f' fuel st ist acc).erase := by
  intro fuel
  induction fuel with
  | zero => intro st ist acc; rfl
  | succ fuel ih =>
    intro st ist acc
    simp only [foldlLoop, hN env it st ist]
    cases N env .emit it st ist with
    | some v st' ist' => exact ite_erase Out.erase rfl (ih _ _ _)
    | _ => rfl

/-- erasure of the result of the collecting phase of `foldr` -/
def fcErase : (Option (List (Val × Nat) × St)) ⊕ Out → (Option (List (Val × Nat) × St)) ⊕ Out
  | .inl (some (items, st)) => .inl (some (items.map (fun x => (Val.unit, x.2)), st))
  | .inl none => .inl none
  | .inr o => .inr o.erase

theorem foldrCollect_modeSim' {N : NextRunner} (hN : ModeSimN N) (env : Env) (it : It) :
    ∀ (fuel : Nat) (st : St) (ist : ItSt) (acc : List (Val × Nat)),
    foldrCollect N env .check it fuel st ist (acc.map (fun x => (Val.unit, x.2)))
      = fcErase (foldrCollect N env .emit it fuel st ist acc) := by
  intro fuel
  induction fuel with
  | zero => intro st ist acc; rfl
  | succ fuel ih =>
    intro st ist acc
    simp only [foldrCollect, hN env it st ist]
    cases N env .emit it st ist with
    | some v st' ist' => exact ite_erase fcErase rfl (ih _ _ ((v, st.pos) :: acc))
    | _ => rfl

theorem foldrCollect_modeSim {N : NextRunner} (hN : ModeSimN N) (env : Env) (it : It)
    (fuel : Nat) (st : St) (ist : ItSt) :
    foldrCollect N env .check it fuel st ist [] = fcErase (foldrCollect N env .emit it fuel st ist []) :=
  foldrCollect_modeSim' hN env it fuel st ist []

theorem repeatFast_erase (R : Runner) (env : Env) (a : G) : ∀ (fuel : Nat) (st : St),
    repeatFast R env a fuel st = (repeatFast R env a fuel st).erase := by
  intro fuel
  induction fuel with
  | zero => intro st; rfl
  | succ fuel ih =>
    intro st
    simp only [repeatFast]
    cases R env .check a st with
    | ok v st' => exact ite_erase Out.erase rfl (ih _)
    | _ => rfl

theorem iterLoop_erase (N : NextRunner) (env : Env) (it : It) (ap : Bool) : ∀ (fuel : Nat) (st : St) (ist : ItSt),
    iterLoop N env it ap fuel st ist = (iterLoop N env it ap fuel st ist).erase := by
  intro fuel
  induction fuel with
  | zero => intro st ist; rfl
  | succ fuel ih =>
    intro st ist
    simp only [iterLoop]
    cases N env .check it st ist with
    | some v st' ist' => exact ite_erase Out.erase rfl (ih _ _)
    | _ => rfl

/-- an iterable parser used as a plain parser: the mode plays no role and the value is `()` -/
theorem mkThen_iterLoop_erase (N : NextRunner) (K : MkRunner) (env : Env) (it it' : It) (ap : Bool) (L : Nat) (st : St) :
    (match K env .check it' st with
      | .ok ist st1 => iterLoop N env it ap L st1 ist
      | .fail st1 => .fail st1
      | .panic w => .panic w
      | .oof => .oof)
    = (match K env .check it' st with
      | .ok ist st1 => iterLoop N env it ap L st1 ist
      | .fail st1 => .fail st1
      | .panic w => .panic w
      | .oof => .oof).erase := by
  cases K env .check it' st with
  | ok ist st1 => exact iterLoop_erase N env it ap L st1 ist
  | _ => rfl

theorem skipUntilLoop_modeSim (R : Runner) (env : Env) (skip until_ : G) (fb : Val) (alt : Loc) :
    ∀ (fuel : Nat) (st : St),
    skipUntilLoop R env .check skip until_ fb alt fuel st
      = (skipUntilLoop R env .emit skip until_ fb alt fuel st).erase := by
  intro fuel
  induction fuel with
  | zero => intro st; rfl
  | succ fuel ih =>
    intro st
    simp only [skipUntilLoop]
    cases R env .check until_ st with
    | fail st1 =>
      simp only []
      cases R env .check skip (st1.rewind st.save) with
      | ok v st3 => exact ih _
      | _ => rfl
    | _ => rfl

theorem skipRetryLoop_modeSim {R : Runner} (hR : ModeSimR R) (env : Env) (a skip until_ : G) (alt : Loc) :
    ∀ (fuel : Nat) (st : St),
    skipRetryLoop R env .check a skip until_ alt fuel st
      = (skipRetryLoop R env .emit a skip until_ alt fuel st).erase := by
  intro fuel
  induction fuel with
  | zero => intro st; rfl
  | succ fuel ih =>
    intro st
    simp only [skipRetryLoop]
    cases R env .check until_ st with
    | fail st1 =>
      simp only []
      cases R env .check skip (st1.rewind st.save) with
      | ok v st3 =>
        simp only [hR env a st3]
        cases R env .emit a st3 with
        | ok v st4 => exact ite_erase Out.erase rfl (ih _)
        | fail st4 => exact ih _
        | _ => rfl
      | _ => rfl
    | _ => rfl

theorem step_modeSim {R N K} (hR : ModeSimR R) (hN : ModeSimN N) (hK : ModeSimK K) (L : Nat) :
    ModeSimR (step R N K L) := by
  intro env g st
  cases g with
  | end_ =>
    simp only [step_eqs]
    cases (St.next env st).fst <;> rfl
  | empty => rfl
  | any | oneOf _ | noneOf _ | select _ => exact tokenPrim_modeSim _ _ _ _
  | just ts =>
    simp only [step_eqs]
    cases justRun env ts st <;> rfl
  | custom f => exact runCustom_modeSim _ _ _
  | todo => rfl
  | then_ a b => exact Out.andThen_modeSim (hR ..) fun _ _ => Out.andThen_modeSim (hR ..) fun _ _ => rfl
  | ignoreThen a b => exact Out.andThen_erase fun _ _ => Out.andThen_modeSim (hR ..) fun _ _ => rfl
  | thenIgnore a b => exact Out.andThen_modeSim (hR ..) fun _ _ => Out.andThen_erase fun _ _ => rfl
  | delimitedBy a l r | paddedBy a p =>
    exact Out.andThen_erase fun _ _ => Out.andThen_modeSim (hR ..) fun _ _ => Out.andThen_erase fun _ _ => rfl
  | group gs | groupArr gs => exact groupLoop_modeSim hR env gs st [] []
  | or_ a b => exact choiceTuple_modeSim hR env _ _ _
  | choice fl gs =>
    cases fl with
    | tuple =>
      cases gs with
      | nil => rfl
      | cons g gs =>
        cases gs with
        | nil => exact hR env g st
        | cons g2 gs => exact choiceTuple_modeSim hR env _ _ _
    | slice =>
      cases gs with
      | nil => rfl
      | cons g gs => exact choiceSlice_modeSim hR env _ _ _
  | orNot a =>
    rw [step_orNot, step_orNot, hR]
    cases R env .emit a st <;> rfl
  | not_ a =>
    simp only [step_eqs]
    split <;> rfl
  | andIs a b =>
    rw [step_andIs, step_andIs, hR]
    cases R env .emit a st with
    | ok va st1 =>
      dsimp only [Out.erase_ok]
      cases R env .check b (st1.rewindInput st.save) <;> rfl
    | _ => rfl
  | rewind a =>
    rw [step_rewind, step_rewind, hR]
    cases R env .emit a st <;> rfl
  | map _ a | toSpan a | mapWithSpan a | mapWithState a | mapWithCtx a =>
    exact Out.andThen_modeSim (hR ..) fun _ _ => rfl
  | to _ a | ignored a | toSlice a | validate _ a => exact Out.andThen_erase fun _ _ => rfl
  | filter _ a | tryMapWith _ a => exact Out.andThen_erase fun _ _ => ite_erase Out.erase rfl rfl
  | tryMap f a =>
    rw [step_tryMap, step_tryMap]
    generalize R env .emit a _ = o
    cases o with
    | ok v st1 => exact ite_erase Out.erase rfl rfl
    | _ => rfl
  | collect k it =>
    rw [step_collect, step_collect, hK]
    cases K env .emit it st with
    | ok ist st1 => exact collectLoop_modeSim hN env it k L st1 ist [] [] 0
    | _ => rfl
  | collectExactly n it =>
    rw [step_collectExactly, step_collectExactly, hK]
    cases K env .emit it st with
    | ok ist st1 => exact collectExactlyLoop_modeSim hN env it n st1 ist [] []
    | _ => rfl
  | foldl _ a it | foldlWith a it =>
    refine Out.andThen_modeSim (hR ..) fun va st1 => ?_
    rw [hK]
    cases K env .emit it st1 with
    | ok ist st2 => exact foldlLoop_modeSim hN env it _ _ L st2 ist va
    | _ => rfl
  | foldr _ it b | foldrWith it b =>
    simp only [step_eqs, hK env it st]
    cases K env .emit it st with
    | ok ist st1 =>
      simp only [foldrCollect_modeSim hN]
      cases foldrCollect N env .emit it L st1 ist [] with
      | inr o => rfl
      | inl x =>
        cases x with
        | none => rfl
        | some p => exact Out.andThen_modeSim (hR ..) fun _ _ => rfl
    | _ => rfl
  | iterP it =>
    simp only [step_eqs]
    cases it with
    | repeated a lo hi =>
      cases lo with
      | zero =>
        cases hi with
        | none => exact repeatFast_erase R env a L st
        | some h => exact mkThen_iterLoop_erase ..
      | succ lo => exact mkThen_iterLoop_erase ..
    | separatedBy a sep lo hi lead trail => exact mkThen_iterLoop_erase ..
    | configureRep c inner => exact mkThen_iterLoop_erase ..
    | tryConfigureRep c inner => exact mkThen_iterLoop_erase ..
    | intoIter a => exact Out.andThen_erase fun _ _ => rfl
    | _ => rfl
  | recoverVia a r =>
    rw [step_recoverVia, step_recoverVia, hR]
    cases R env .emit a st with
    | fail st1 =>
      dsimp only [Out.erase_fail]
      cases (st1.rewind st.save).alt with
      | none => rfl
      | some alt =>
        dsimp only
        rw [hR]
        generalize R env .emit r _ = o
        cases o <;> rfl
    | _ => rfl
  | recoverSkipUntil a skip until_ fb =>
    rw [step_recoverSkipUntil, step_recoverSkipUntil, hR]
    cases R env .emit a st with
    | fail st1 =>
      dsimp only [Out.erase_fail]
      cases (st1.rewind st.save).alt with
      | none => rfl
      | some alt =>
        dsimp only
        rw [skipUntilLoop_modeSim]
        generalize skipUntilLoop R env .emit skip until_ fb alt L _ = o
        cases o <;> rfl
    | _ => rfl
  | recoverSkipRetry a skip until_ =>
    rw [step_recoverSkipRetry, step_recoverSkipRetry, hR]
    cases R env .emit a st with
    | fail st1 =>
      dsimp only [Out.erase_fail]
      cases (st1.rewind st.save).alt with
      | none => rfl
      | some alt =>
        dsimp only
        rw [skipRetryLoop_modeSim hR]
        generalize skipRetryLoop R env .emit a skip until_ alt L _ = o
        cases o <;> rfl
    | _ => rfl
  | labelled l asCtx a =>
    rw [step_labelled, step_labelled, hR]
    generalize R env .emit a _ = o
    cases o <;> rfl
  | mapErr k a =>
    rw [step_mapErr, step_mapErr, hR]
    generalize R env .emit a _ = o
    cases o with
    | fail st1 => simp only [Out.erase_fail]; cases st1.alt <;> rfl
    | _ => rfl
  | withCtx _ a | mapCtx _ a => exact Out.restoreCtx_modeSim (hR ..)
  | ignoreWithCtx a b => exact Out.andThen_erase fun _ _ => Out.restoreCtx_modeSim (hR ..)
  | thenWithCtx a b =>
    exact Out.andThen_erase fun _ _ => Out.andThen_modeSim (Out.restoreCtx_modeSim (hR ..)) fun _ _ => rfl
  | configureJust c ts =>
    simp only [step_eqs]
    generalize justRun env _ st = o
    cases o <;> rfl
  | withState a =>
    rw [step_withState, step_withState, hR]
    generalize R env .emit a _ = o
    cases o <;> rfl
  | memoized id a =>
    rw [step_memoized, step_memoized, hR]
    refine ite_erase Out.erase rfl ?_
    dsimp only
    cases memoFind st.memo (st.pos, id) with
    | some x => cases x <;> rfl
    | none =>
      dsimp only
      rw [hR]
      generalize R env .emit a _ = o
      cases o <;> rfl
  | call k =>
    rw [step_call, step_call]
    cases env.defs[k]? with
    | some d => exact hR env d st
    | none => rfl
  | boxed a => exact hR env a st

theorem repeatedNext_modeSim {R : Runner} (hR : ModeSimR R) (env : Env) (a : G) (lo : Nat) (hi : Option Nat)
    (st : St) (n : Nat) (wrap : ItSt → ItSt) :
    repeatedNext R env .check a lo hi st n wrap = (repeatedNext R env .emit a lo hi st n wrap).erase := by
  simp only [repeatedNext, hR env a st]
  refine ite_erase ItOut.erase rfl ?_
  cases R env .emit a st with
  | fail st1 => exact ite_erase ItOut.erase rfl rfl
  | _ => rfl

theorem separatedNext_modeSim {R : Runner} (hR : ModeSimR R) (env : Env) (a sep : G) (lo : Nat) (hi : Option Nat)
    (lead trail : Bool) (st : St) (n : Nat) :
    separatedNext R env .check a sep lo hi lead trail st n
      = (separatedNext R env .emit a sep lo hi lead trail st n).erase := by
  -- the separator is run in `check` mode on both sides; only the item depends on the mode
  have item : ∀ (c : Chk) (st0 : St),
      sepNextItem R env .check a lo trail c n st0 = (sepNextItem R env .emit a lo trail c n st0).erase := by
    intro c st0
    rw [sepNextItem, sepNextItem, hR]
    cases R env .emit a st0 with
    | fail s => exact ite_erase ItOut.erase rfl (ite_erase ItOut.erase rfl rfl)
    | _ => rfl
  rw [separatedNext_eq, separatedNext_eq]
  refine ite_erase ItOut.erase rfl (ite_erase ItOut.erase ?_ (ite_erase ItOut.erase ?_ (item _ _)))
  · cases R env .check sep st with
    | ok v st1 => exact item _ _
    | fail st1 => exact item _ _
    | _ => rfl
  · cases R env .check sep st with
    | ok v st1 => exact item _ _
    | fail st1 => exact ite_erase ItOut.erase rfl rfl
    | _ => rfl

theorem stepNext_modeSim {R N K} (hR : ModeSimR R) (hN : ModeSimN N) (hK : ModeSimK K) :
    ModeSimN (stepNext R N K) := by
  intro env it st ist
  cases it with
  | repeated a lo hi =>
    cases ist with
    | cnt n => exact repeatedNext_modeSim hR env a lo hi st n id
    | _ => rfl
  | separatedBy a sep lo hi lead trail =>
    cases ist with
    | cnt n => exact separatedNext_modeSim hR env a sep lo hi lead trail st n
    | _ => rfl
  | enumerate inner =>
    cases ist with
    | enum k s =>
      rw [stepNext_enumerate, stepNext_enumerate, hN]
      cases N env .emit inner st s <;> rfl
    | _ => rfl
  | orNotIt a =>
    cases ist with
    | fin b =>
      rw [stepNext_orNotIt, stepNext_orNotIt, hR]
      refine ite_erase ItOut.erase rfl ?_
      cases R env .emit a st <;> rfl
    | _ => rfl
  | intoIter a =>
    cases ist with
    | into vs => cases vs <;> rfl
    | _ => rfl
  | thenIt a b =>
    cases ist with
    | thn sa sb? =>
      cases sb? with
      | some sb =>
        rw [stepNext_thenIt_some, stepNext_thenIt_some, hN]
        cases N env .emit b st sb <;> rfl
      | none =>
        rw [stepNext_thenIt_none, stepNext_thenIt_none, hN]
        cases N env .emit a st sa with
        | done st1 sa1 =>
          simp only [ItOut.erase_done, hK env b st1]
          cases K env .emit b st1 with
          | ok sb st2 =>
            simp only [hN env b st2 sb]
            cases N env .emit b st2 sb <;> rfl
          | _ => rfl
        | _ => rfl
    | _ => rfl
  | mapIt f inner =>
    rw [stepNext_mapIt, stepNext_mapIt, hN]
    cases N env .emit inner st ist <;> rfl
  | configureRep c inner | tryConfigureRep c inner =>
    cases inner with
    | repeated a lo hi =>
      cases ist with
      | cfg s clo chi =>
        cases s with
        | cnt n => exact repeatedNext_modeSim hR env a (clo.getD lo) _ st n fun s => .cfg s clo chi
        | _ => rfl
      | _ => rfl
    | _ => rfl

/-- `make_iter` runs sub-parsers in `emit` mode only (`into_iter`), so nothing is asked of `R` -/
theorem stepMk_modeSim {R K} (_hR : ModeSimR R) (hK : ModeSimK K) : ModeSimK (stepMk R K) := by
  intro env it st
  cases it <;> simp only [stepMk, hK env _ st]

theorem run_modeSim (n : Nat) : ModeSimR (run n) ∧ ModeSimN (next n) ∧ ModeSimK (mkIter n) := by
  induction n with
  | zero => exact ⟨fun _ _ _ => rfl, fun _ _ _ _ => rfl, fun _ _ _ => rfl⟩
  | succ n ih =>
    exact ⟨step_modeSim ih.1 ih.2.1 ih.2.2 n, stepNext_modeSim ih.1 ih.2.1 ih.2.2, stepMk_modeSim ih.1 ih.2.2⟩

/-- C04 at the level of runs -/
theorem run_check_eq_erase_emit (n : Nat) (env : Env) (g : G) (st : St) :
    run n env .check g st = (run n env .emit g st).erase :=
  (run_modeSim n).1 env g st

/-- C04 at the top level -/
theorem parseTop_check_eq (n : Nat) (env : Env) (g : G) :
    parseTop n env .check g = match parseTop n env .emit g with
      | .result r final => .result ⟨r.output.map (fun _ => Val.unit), r.errs⟩ final
      | o => o := by
  simp only [parseTop, run_check_eq_erase_emit]
  cases run n env .emit (.thenIgnore g .end_) St.init <;> rfl

theorem run_check_ok_unit {n : Nat} {env : Env} {g : G} {st st' : St} {v : Val}
    (h : run n env .check g st = .ok v st') : v = .unit := by
  rw [run_check_eq_erase_emit] at h
  cases h' : run n env .emit g st with
  | ok v' s' => rw [h'] at h; cases h; rfl
  | fail s' => rw [h'] at h; cases h
  | panic w => rw [h'] at h; cases h
  | oof => rw [h'] at h; cases h

end Chumsky

#print axioms Chumsky.run_check_eq_erase_emit
#print axioms Chumsky.parseTop_check_eq
