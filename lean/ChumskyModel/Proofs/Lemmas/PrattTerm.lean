/-
  C20 / C12 for Pratt parsers: `atom.pratt(ops)` returns a result. If the atom and every operator parser consume input when
  they succeed and themselves return (no `oof`, no panic), the binding-power recursion needs at most `|remaining input| + 2`
  levels of its own fuel: every recursion into an operand happens after an operator consumed a token, every iteration of
  the operator loop consumes a token. (Operators that can succeed without consuming make the real `pratt_go` loop forever;
  they are outside the property's "non-pathological" class, like nullable repetition items.)
-/
import ChumskyModel.Proofs.Lemmas.PrattInv
import ChumskyModel.Proofs.Lemmas.Total
namespace Chumsky

/-- a result (not out of fuel, not a panic), and a success ended at or after `lo`, inside the input -/
def Res (N lo : Nat) : SOut → Prop
  | .ok _ s' _ => lo ≤ s'.pos ∧ s'.pos ≤ N
  | .fail => True
  | _ => False

section
variable {P : G → SS → SOut} {rec : Nat → SS → SOut} {env : Env} {N lo lo' : Nat} {ok : G → Prop} {o : SOut}

theorem Res.mono (h : Res N lo o) (hl : lo' ≤ lo) : Res N lo' o := by
  cases o <;> first | exact ⟨Nat.le_trans hl h.1, h.2⟩ | exact h

theorem Res.andThen {k : Val → SS → List Emis → SOut} (h : Res N lo o)
    (hk : ∀ v s em, lo ≤ s.pos → s.pos ≤ N → Res N lo' (k v s em)) : Res N lo' (o.andThen k) := by
  cases o <;> first | exact hk _ _ _ h.1 h.2 | exact h

theorem Res.notStuck (h : Res N lo o) : o ≠ .oof ∧ ∀ w, o ≠ .panic w := by
  cases o <;> first | exact h.elim | exact ⟨nofun, nofun⟩

/-- hypothesis on the atom / operator parsers: inside the input they return, and consume when they succeed -/
def TermHyp (P : G → SS → SOut) (ok : G → Prop) (N : Nat) : Prop :=
  ∀ g s, ok g → s.pos ≤ N → Res N (s.pos + 1) (P g s)

/-- recursive calls started strictly after `s0` behave -/
def RecRes (rec : Nat → SS → SOut) (N : Nat) (s0 : Nat) : Prop :=
  ∀ p s1, s0 < s1.pos → s1.pos ≤ N → Res N s1.pos (rec p s1)

variable {s : SS} {op : G}

/-- fuel against position: a step that uses one unit of fuel starts at least one token further -/
theorem fuel_step {M k a b : Nat} (hk : M ≤ k + 1 + a) (h : a + 1 ≤ b) : M ≤ k + b :=
  Nat.le_trans hk (Nat.add_assoc k 1 a ▸ Nat.add_le_add_left (Nat.add_comm 1 a ▸ h) k)

theorem sPrattOperator_term (hP : TermHyp P ok N) (hs : s.pos ≤ N) (hop : ok op) (start : Nat)
    (f : Val → Nat × Nat → Val) : Res N (s.pos + 1) (sPrattOperator P env start f op s) :=
  (hP op s hop hs).andThen fun _ _ _ h1 h2 => ⟨h1, h2⟩

theorem sPrattOperand_term (hP : TermHyp P ok N) (hs : s.pos ≤ N) {s0 : Nat} (h0 : s0 ≤ s.pos) (hrec : RecRes rec N s0)
    (hop : ok op) (start : Nat) (f : Val → Val → Nat × Nat → Val) (p : Nat) :
    Res N (s.pos + 1) (sPrattOperand P rec env start f op p s) :=
  (hP op s hop hs).andThen fun _ s1 _ h1 h2 =>
    (hrec p s1 (Nat.lt_of_le_of_lt h0 h1) h2).andThen fun _ _ _ h3 h4 => ⟨Nat.le_trans h1 h3, h4⟩

theorem sPrattLoop_term (hP : TermHyp P ok N) (ops : List PrattOp) (hops : OpsOK ok ops) (start : SS) (minP : Nat)
    (s0 : Nat) (hrec : RecRes rec N s0) :
    ∀ (k : Nat) (s : SS) (lhs : Val) (em : List Emis), s0 ≤ s.pos → s.pos ≤ N → N + 1 ≤ k + s.pos →
      Res N s.pos (sPrattLoop P rec env ops start minP k s lhs em)
  | 0, _, _, _, _, hs, hk => absurd (Nat.le_trans (Nat.le_trans hk (Nat.le_of_eq (Nat.zero_add _))) hs) (Nat.not_succ_le_self _)
  | k + 1, s, lhs, em, h0, hs, hk => by
    rw [sPrattLoop_succ]
    cases hr : (sPrattPostfix P env start minP lhs s ops).or (sPrattInfix P rec env start minP lhs s ops) with
    | none => exact ⟨Nat.le_refl _, hs⟩
    | some o =>
      have : Res N (s.pos + 1) o := by
        rcases sPrattRound_some hr with ⟨_, _, hm, _, rfl⟩ | ⟨_, _, _, hm, _, rfl⟩
        · exact sPrattOperator_term hP hs (hops _ hm) ..
        · exact sPrattOperand_term hP hs h0 hrec (hops _ hm) ..
      exact this.andThen fun v s1 _ h1 h2 =>
        (sPrattLoop_term hP ops hops start minP s0 hrec k s1 v _ (Nat.le_trans h0 (Nat.le_of_lt h1)) h2
          (fuel_step hk h1)).mono (Nat.le_of_lt h1)

/-- **termination of the binding-power recursion**: with fuel `k + s.pos ≥ N + 2` the result is a result (not out of fuel,
    not a panic), and a success has consumed at least one token and stayed inside the input -/
theorem sPratt_term (hP : TermHyp P ok N) (atom : G) (hatom : ok atom) (ops : List PrattOp) (hops : OpsOK ok ops) :
    ∀ (k minP : Nat) (s : SS), s.pos ≤ N → N + 2 ≤ k + s.pos → Res N (s.pos + 1) (sPratt P env atom ops k minP s)
  | 0, _, _, hs, hk =>
    absurd (Nat.le_trans (Nat.le_trans hk (Nat.le_of_eq (Nat.zero_add _))) hs)
      (Nat.not_le_of_gt (Nat.lt_succ_of_lt (Nat.lt_succ_self _)))
  | k + 1, minP, s, hs, hk => by
    have hrec : RecRes (sPratt P env atom ops k) N s.pos := fun p s1 hlt hb =>
      (sPratt_term hP atom hatom ops hops k p s1 hb (fuel_step hk hlt)).mono (Nat.le_succ _)
    rw [sPratt_succ]
    refine Res.andThen (lo := s.pos + 1) ?_ fun v s1 e1 h1 h2 =>
      (sPrattLoop_term hP ops hops s minP s.pos hrec k s1 v e1 (Nat.le_of_lt h1) h2
        (Nat.le_of_succ_le (fuel_step hk h1))).mono h1
    cases h : sPrattPrefix P (sPratt P env atom ops k) env s ops with
    | none => exact hP atom s hatom hs
    | some o =>
      obtain ⟨_, _, hm, rfl⟩ := sPrattPrefix_some h
      exact sPrattOperand_term hP hs (Nat.le_refl _) hrec (hops _ hm) ..
end

/-- table parsers that are call-free, well-formed and terminating (`wfTerm`) and consume input when they succeed -/
def G.prattOk (g : G) : Bool := g.wfTerm && g.consumes noCalls

theorem peg_termHyp (n d : Nat) (env : Env) (ctx : Val) (hn : d + env.toks.length + 1 ≤ n) :
    TermHyp (fun g s => peg n env g s ctx) (fun g => g.prattOk = true ∧ g.depth ≤ d) env.toks.length := by
  intro g s hg hs
  obtain ⟨hw, hc⟩ := Bool.and_eq_true_iff.1 hg.1
  have ht := peg_terminates n env g s ctx hw (Nat.le_trans (Nat.add_le_add_right (Nat.add_le_add_right hg.2 _) _) hn)
  show Res _ _ (peg n env g s ctx)
  cases h : peg n env g s ctx with
  | ok v s' em => exact ⟨peg_consumes n env (cdefs_noCalls env) g s ctx hc h, (peg_adv n env g s ctx h).bound hs⟩
  | fail => trivial
  | panic w => exact ht.2 w h
  | oof => exact ht.1 h

/-- **C20 for `atom.pratt(ops)`** (reading): with fuel covering the depth of the table's parsers and the input length,
    the Pratt parser returns from every position inside the input -/
theorem pegPratt_terminates (n d : Nat) (env : Env) (atom : G) (ops : List PrattOp) (hatom : atom.prattOk = true ∧ atom.depth ≤ d)
    (hops : ∀ o ∈ ops, o.parser.prattOk = true ∧ o.parser.depth ≤ d) (hn : d + env.toks.length + 2 ≤ n) (s : SS)
    (ctx : Val) (hs : s.pos ≤ env.toks.length) :
    pegPratt n env atom ops s ctx ≠ .oof ∧ ∀ w, pegPratt n env atom ops s ctx ≠ .panic w :=
  (sPratt_term (env := env) (peg_termHyp n d env ctx (Nat.le_of_succ_le hn)) atom hatom ops hops n 0 s hs
    (by omega)).notStuck

theorem runPratt_terminates (n d : Nat) (env : Env) (m : Mode) (hm : env.memoOn = false) (atom : G) (ops : List PrattOp)
    (hatom : atom.prattOk = true ∧ atom.depth ≤ d) (hops : ∀ o ∈ ops, o.parser.prattOk = true ∧ o.parser.depth ≤ d)
    (hn : d + env.toks.length + 2 ≤ n) (st : St) (hs : st.pos ≤ env.toks.length) :
    runPratt n env m atom ops st ≠ .oof ∧ ∀ w, runPratt n env m atom ops st ≠ .panic w := by
  have ht := pegPratt_terminates n d env atom ops hatom hops hn st.ss st.ctx hs
  have hr := runPratt_refines n env m atom ops st hm
  refine hr.cases (fun _ _ _ _ _ _ => ⟨nofun, nofun⟩) (fun _ _ _ => ⟨nofun, nofun⟩) (fun w h => ?_) (fun h => ?_) ht
  · exact absurd rfl (h.2 w)
  · exact absurd rfl h.1

end Chumsky
