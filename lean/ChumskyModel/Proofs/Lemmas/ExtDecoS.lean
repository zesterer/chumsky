/-
  C17 for grammars with extensions, the strong relation: under the property's proviso (no recovery strategy under a decoration;
  an extension referenced under a decoration is recovery free) erasing the decorations also keeps the SPANS of all errors —
  secondary and pending — through the operator rewinds of `pratt_go` and through the sub-context of `NestedIn::go`.
-/
import ChumskyModel.Proofs.Lemmas.ExtDeco
namespace Chumsky

/-- a runner pair simulated (strong relation) in every related pair of environments -/
def SimRS (b dr : Bool) (R1 R2 : Runner) : Prop :=
  ∀ env1 env2, EnvRel true b dr env1 env2 → SimR true b dr env1 env2 R1 R2

theorem nestedStep_simS {b dr : Bool} {R1 R2 : Runner} (hR : SimRS b dr R1 R2) {env1 env2 : Env}
    (he : EnvRel true b dr env1 env2) (h : HEnv) (o : Option Sh) (u : Bool) (ha : h.a.adm true b dr u = true)
    (hb : h.b.adm true b dr u = true) (ho : u = false → o = none) (m : Mode) (st1 st2 : St) (hs : Rel o true st1 st2) :
    OutRel o true (nestedStepM R1 h env1 m st1) (nestedStepM R2 (h.erase b) env2 m st2) :=
  nestedStep_sim hR he h u ha hb (fun _ => ho) m hs

def AllSimS (b dr : Bool) (R1 R2 : Runner) (N1 N2 : NextRunner) (K1 K2 : MkRunner) : Prop :=
  ∀ env1 env2, EnvRel true b dr env1 env2 →
    SimR true b dr env1 env2 R1 R2 ∧ SimN true b dr env1 env2 N1 N2 ∧ SimK true b dr env1 env2 K1 K2

theorem runE_simS (e : EEnv) (b dr : Bool) (hx : e.Adm b dr) (n : Nat) :
    AllSimS b dr (runE e n) (runE (e.erase b) n) (nextE e n) (nextE (e.erase b) n) (mkIterE e n) (mkIterE (e.erase b) n) :=
  fun _ _ he => runE_sim e true b dr (fun _ => hx) n he

/-- **C17 for grammars with extensions, the class of the property**: no recovery strategy under a decoration — in the grammar, in
    the definitions, in the parsers of the extensions (and an extension referenced under a decoration is recovery free): the
    decorated and the undecorated run agree on values, positions, inspector, context, number AND SPANS of the secondary errors,
    position and span of the pending error -/
theorem runE_decoSim (e : EEnv) (n : Nat) (env : Env) (hm : env.memoOn = false) (hek : env.ek ≠ .empty) (dr : Bool)
    (hd : DecoSafeDefs dr env) (hx : e.Adm true dr) (m : Mode) (g : G) (hg : g.decoSafe dr = true) (st1 st2 : St)
    (hs : StSim st1 st2) :
    OutSim (runE e n env m g st1) (runE (e.erase true) n { env with defs := env.defs.map G.eraseDeco } m g.eraseDeco st2) := by
  have := (runE_simS e true dr hx n env _ (envRel_deco true env hm hek dr (fun _ => hd))).1 none false m g st1 st2
    ((StSim_iff _ _).mp hs) hg (fun _ _ => rfl)
  rw [G.erase_true] at this
  exact this.toSim

theorem parseTopE_decoSim (e : EEnv) (n : Nat) (env : Env) (hm : env.memoOn = false) (hek : env.ek ≠ .empty) (dr : Bool)
    (hd : DecoSafeDefs dr env) (hx : e.Adm true dr) (m : Mode) (g : G) (hg : g.decoSafe dr = true) :
    TopSim (parseTopE e n env m g)
      (parseTopE (e.erase true) n { env with defs := env.defs.map G.eraseDeco } m g.eraseDeco) := by
  have h := runE_decoSim e n env hm hek dr hd hx m (.thenIgnore g .end_) (by
    show (g.adm true true dr false && true) = true
    rw [Bool.and_true]; exact hg) St.init St.init StSim.refl_init
  rw [parseTopE_eq_top, parseTopE_eq_top]
  exact topSim_of_outSim (env1 := env) (env2 := { env with defs := env.defs.map G.eraseDeco }) hek hek (fun _ _ => rfl) h


end Chumsky
