/-
  Proofs/Lemmas/RepSpec.lean — property C02 on the reference semantics (`Model/Spec.lean`).

  `repeated()` and `separated_by()` match greedily and possessively; `collect`, `collect_exactly`,
  `count`, `enumerate`, `foldl`, `foldr` see exactly the item sequence the iterator produces.

  Everything here is about the Spec only, for an arbitrary item runner `P : SRunner`
  (instantiated with `peg n` in the corollaries at the end of each section).
-/
import ChumskyModel.Proofs.Lemmas.StepEqns
namespace Chumsky

/-! ## 1. the item stream of an iterator -/

/-- driving `next` from `(s, ist)` until it says `done`: the items, the final position, the emissions -/
inductive Items (N : SNextRunner) (env : Env) (ctx : Val) (it : It) :
    SS → ItSt → List Val → SS → List Emis → Prop
  | done {s ist s' ist' em} : N env it s ctx ist = .done s' ist' em → Items N env ctx it s ist [] s' em
  | some {s ist v s1 ist1 e1 vs s2 e2} : N env it s ctx ist = .some v s1 ist1 e1 →
      Items N env ctx it s1 ist1 vs s2 e2 → Items N env ctx it s ist (v :: vs) s2 (e1 ++ e2)

/-- a prefix of the stream: `vs.length` calls of `next`, each of which returned an item
    (`Items` without the final `done`) -/
inductive ItemsPre (N : SNextRunner) (env : Env) (ctx : Val) (it : It) :
    SS → ItSt → List Val → SS → ItSt → List Emis → Prop
  | nil (s ist) : ItemsPre N env ctx it s ist [] s ist []
  | some {s ist v s1 ist1 e1 vs s2 ist2 e2} : N env it s ctx ist = .some v s1 ist1 e1 →
      ItemsPre N env ctx it s1 ist1 vs s2 ist2 e2 → ItemsPre N env ctx it s ist (v :: vs) s2 ist2 (e1 ++ e2)

/-- driving `next` fails: some prefix of items (`vs`, ending at `s1`), then `next` says `fail` -/
def ItemsFail (N : SNextRunner) (env : Env) (ctx : Val) (it : It) (s : SS) (ist : ItSt)
    (vs : List Val) (s1 : SS) : Prop :=
  ∃ ist1 e, ItemsPre N env ctx it s ist vs s1 ist1 e ∧ N env it s1 ctx ist1 = .fail

section generic
variable {N : SNextRunner} {env : Env} {ctx : Val} {it : It}

theorem Items_iff_pre {s ist vs s' e} :
    Items N env ctx it s ist vs s' e ↔
      ∃ s1 ist1 e1 ist' e2, ItemsPre N env ctx it s ist vs s1 ist1 e1 ∧
        N env it s1 ctx ist1 = .done s' ist' e2 ∧ e = e1 ++ e2 := by
  constructor
  · intro h
    induction h with
    | done h => exact ⟨_, _, [], _, _, .nil _ _, h, rfl⟩
    | some h _ ih =>
      obtain ⟨s1, ist1, e1, ist', e2, hp, hd, rfl⟩ := ih
      exact ⟨s1, ist1, _, ist', e2, .some h hp, hd, by simp⟩
  · rintro ⟨s1, ist1, e1, ist', e2, hp, hd, rfl⟩
    induction hp with
    | nil => exact .done hd
    | some h _ ih => rw [List.append_assoc]; exact .some h (ih hd)

theorem ItemsFail_nil {s ist s'} :
    ItemsFail N env ctx it s ist [] s' ↔ s' = s ∧ N env it s ctx ist = .fail := by
  constructor
  · rintro ⟨ist1, e, hp, hf⟩; cases hp; exact ⟨rfl, hf⟩
  · rintro ⟨rfl, h⟩; exact ⟨_, _, .nil _ _, h⟩

theorem ItemsFail_cons {s ist v vs s'} : ItemsFail N env ctx it s ist (v :: vs) s' ↔
    ∃ s1 ist1 e1, N env it s ctx ist = .some v s1 ist1 e1 ∧ ItemsFail N env ctx it s1 ist1 vs s' := by
  constructor
  · rintro ⟨ist2, e, hp, hf⟩
    cases hp with
    | some h hp => exact ⟨_, _, _, h, _, _, hp, hf⟩
  · rintro ⟨s1, ist1, e1, h, ist2, e, hp, hf⟩
    exact ⟨_, _, .some h hp, hf⟩

theorem Items.det {s ist vs s' e vs2 s2 e2} (h1 : Items N env ctx it s ist vs s' e)
    (h2 : Items N env ctx it s ist vs2 s2 e2) : vs = vs2 ∧ s' = s2 ∧ e = e2 := by
  induction h1 generalizing vs2 s2 e2 with
  | done h =>
    cases h2 with
    | done h' => rw [h] at h'; cases h'; exact ⟨rfl, rfl, rfl⟩
    | some h' _ => rw [h] at h'; cases h'
  | some h _ ih =>
    cases h2 with
    | done h' => rw [h] at h'; cases h'
    | some h' t =>
      rw [h] at h'; cases h'
      obtain ⟨rfl, rfl, rfl⟩ := ih t
      exact ⟨rfl, rfl, rfl⟩

/-! ## 2. the consumers see exactly that stream

  Each loop is read off its defining equation: on `some` the progress assertion fires or the loop goes on (induction),
  on `done` it returns, every other answer of `next` is passed on and is not a success. -/

/-- `collect`: the container is built from the stream, in input order -/
theorem sCollectLoop_sound {k : CollKind} : ∀ fuel s ist acc i em v s' em',
    sCollectLoop N env ctx it k fuel s ist acc i em = .ok v s' em' →
    ∃ vs e, Items N env ctx it s ist vs s' e ∧ v = sCollectOut k (acc.reverse ++ vs) ∧ em' = em ++ e := by
  intro fuel
  induction fuel with
  | zero => intro s ist acc i em v s' em' h; cases h
  | succ fuel ih =>
    intro s ist acc i em v s' em' h
    unfold sCollectLoop at h
    cases hN : N env it s ctx ist with
    | some w s1 ist1 e1 =>
      rw [hN] at h; simp only at h
      split at h
      · cases h
      · obtain ⟨vs, e, hI, hv, he⟩ := ih _ _ _ _ _ _ _ _ h
        exact ⟨w :: vs, e1 ++ e, .some hN hI, by rw [hv, List.reverse_cons, List.append_assoc]; rfl,
          by rw [he, List.append_assoc]⟩
    | done s1 ist1 e1 =>
      rw [hN] at h; simp only at h; cases h
      exact ⟨[], e1, .done hN, by rw [List.append_nil], rfl⟩
    | fail | panic _ | oof => rw [hN] at h; cases h

theorem sCollectLoop_complete {k : CollKind} {s ist vs s' e} (h : Items N env ctx it s ist vs s' e) :
    ∀ fuel acc i em, vs.length < fuel →
      sCollectLoop N env ctx it k fuel s ist acc i em = .ok (sCollectOut k (acc.reverse ++ vs)) s' (em ++ e) ∨
      sCollectLoop N env ctx it k fuel s ist acc i em = .panic pNoProgress := by
  induction h with
  | done h =>
    intro fuel acc i em hf
    cases fuel with
    | zero => cases hf
    | succ fuel => left; rw [sCollectLoop, h, List.append_nil]
  | @some s0 ist0 w s1 ist1 e1 vs s2 e2 h _ ih =>
    intro fuel acc i em hf
    cases fuel with
    | zero => cases hf
    | succ fuel =>
      rw [sCollectLoop, h]; simp only
      split
      · right; rfl
      · have := ih fuel (w :: acc) (i + 1) (em ++ e1) (Nat.lt_of_succ_lt_succ hf)
        rwa [List.reverse_cons, List.append_assoc, List.append_assoc] at this

/-- the positions after each item of a stream, needed for the state-dependent closure of
    `foldl_with` -/
inductive ItemsAt (N : SNextRunner) (env : Env) (ctx : Val) (it : It) :
    SS → ItSt → List (Val × SS) → SS → List Emis → Prop
  | done {s ist s' ist' em} : N env it s ctx ist = .done s' ist' em → ItemsAt N env ctx it s ist [] s' em
  | some {s ist v s1 ist1 e1 vs s2 e2} : N env it s ctx ist = .some v s1 ist1 e1 →
      ItemsAt N env ctx it s1 ist1 vs s2 e2 → ItemsAt N env ctx it s ist ((v, s1) :: vs) s2 (e1 ++ e2)

theorem ItemsAt.items {s ist vs s' e} (h : ItemsAt N env ctx it s ist vs s' e) :
    Items N env ctx it s ist (vs.map (·.1)) s' e := by
  induction h with
  | done h => exact .done h
  | some h _ ih => exact .some h ih

/-- `foldl` with an arbitrary closure (`foldl_with`): each step sees the item and the position after it -/
theorem sFoldlLoop_sound_at {f : Val → Val → SS → Val} : ∀ fuel s ist acc em v s' em',
    sFoldlLoop N env ctx it f fuel s ist acc em = .ok v s' em' →
    ∃ vs e, ItemsAt N env ctx it s ist vs s' e ∧ v = vs.foldl (fun a x => f a x.1 x.2) acc ∧ em' = em ++ e := by
  intro fuel
  induction fuel with
  | zero => intro s ist acc em v s' em' h; cases h
  | succ fuel ih =>
    intro s ist acc em v s' em' h
    unfold sFoldlLoop at h
    cases hN : N env it s ctx ist with
    | some w s1 ist1 e1 =>
      rw [hN] at h; simp only at h
      split at h
      · cases h
      · obtain ⟨vs, e, hI, hv, he⟩ := ih _ _ _ _ _ _ _ h
        exact ⟨(w, s1) :: vs, e1 ++ e, .some hN hI, hv, by rw [he, List.append_assoc]⟩
    | done s1 ist1 e1 =>
      rw [hN] at h; simp only at h; cases h
      exact ⟨[], e1, .done hN, rfl, rfl⟩
    | fail | panic _ | oof => rw [hN] at h; cases h

theorem sFoldlLoop_sound {g : Val → Val → Val} (fuel s ist acc em v s' em')
    (h : sFoldlLoop N env ctx it (fun a x _ => g a x) fuel s ist acc em = .ok v s' em') :
    ∃ vs e, Items N env ctx it s ist vs s' e ∧ v = vs.foldl g acc ∧ em' = em ++ e :=
  have ⟨vs, e, hI, hv, he⟩ := sFoldlLoop_sound_at fuel s ist acc em v s' em' h
  ⟨vs.map (·.1), e, hI.items, by rw [hv, List.foldl_map], he⟩

/-- the collecting phase of `foldr`: the accumulator (reversed) is extended by the stream -/
theorem sFoldrCollect_sound : ∀ fuel s ist acc em items s' em',
    sFoldrCollect N env ctx it fuel s ist acc em = .inl (some (items, s', em')) →
    ∃ vs e, Items N env ctx it s ist vs s' e ∧
      items.reverse.map (·.1) = acc.reverse.map (·.1) ++ vs ∧ em' = em ++ e := by
  intro fuel
  induction fuel with
  | zero => intro s ist acc em items s' em' h; cases h
  | succ fuel ih =>
    intro s ist acc em items s' em' h
    unfold sFoldrCollect at h
    cases hN : N env it s ctx ist with
    | some w s1 ist1 e1 =>
      rw [hN] at h; simp only at h
      split at h
      · cases h
      · obtain ⟨vs, e, hI, hv, he⟩ := ih _ _ _ _ _ _ _ h
        exact ⟨w :: vs, e1 ++ e, .some hN hI,
          by rw [hv, List.reverse_cons, List.map_append, List.append_assoc]; rfl, by rw [he, List.append_assoc]⟩
    | done s1 ist1 e1 =>
      rw [hN] at h; simp only at h; cases h
      exact ⟨[], e1, .done hN, (List.append_nil _).symm, rfl⟩
    | fail | panic _ | oof => rw [hN] at h; cases h

theorem sFoldrCollect_ne_ok : ∀ fuel s ist acc em v s' em',
    sFoldrCollect N env ctx it fuel s ist acc em ≠ .inr (.ok v s' em') := by
  intro fuel
  induction fuel with
  | zero => intro s ist acc em v s' em' h; cases h
  | succ fuel ih =>
    intro s ist acc em v s' em' h
    unfold sFoldrCollect at h
    cases hN : N env it s ctx ist with
    | some w s1 ist1 e1 =>
      rw [hN] at h; simp only at h
      split at h
      · cases h
      · exact ih _ _ _ _ _ _ _ h
    | done _ _ _ | fail | panic _ | oof => rw [hN] at h; cases h

/-- the final fold of `foldr` over the reversed accumulator is a right fold over the items
    in input order -/
theorem foldr_final (g : Val → Val → Val) (items : List (Val × Nat)) (vb : Val) :
    items.foldl (fun acc (x : Val × Nat) => g x.1 acc) vb = List.foldr g vb (items.reverse.map (·.1)) := by
  rw [List.foldr_map, List.foldr_reverse]

/-- the counted loop of `Repeated::go` / `SeparatedBy::go`: drives the whole stream, value `()` -/
theorem sIterLoop_sound {ap : Bool} : ∀ fuel s ist em v s' em',
    sIterLoop N env ctx it ap fuel s ist em = .ok v s' em' →
    ∃ vs e, Items N env ctx it s ist vs s' e ∧ v = .unit ∧ em' = em ++ e := by
  intro fuel
  induction fuel with
  | zero => intro s ist em v s' em' h; cases h
  | succ fuel ih =>
    intro s ist em v s' em' h
    unfold sIterLoop at h
    cases hN : N env it s ctx ist with
    | some w s1 ist1 e1 =>
      rw [hN] at h; simp only at h
      split at h
      · cases h
      · obtain ⟨vs, e, hI, hv, he⟩ := ih _ _ _ _ _ _ h
        exact ⟨w :: vs, e1 ++ e, .some hN hI, hv, by rw [he, List.append_assoc]⟩
    | done s1 ist1 e1 =>
      rw [hN] at h; simp only at h; cases h
      exact ⟨[], e1, .done hN, rfl, rfl⟩
    | fail | panic _ | oof => rw [hN] at h; cases h

/-- `collect_exactly(n)` succeeds iff exactly `n` calls of `next` return items; it never asks
    for the final `done` -/
theorem sCollectExactlyLoop_ok : ∀ n s ist acc em v s' em',
    sCollectExactlyLoop N env ctx it n s ist acc em = .ok v s' em' ↔
    ∃ vs ist' e, ItemsPre N env ctx it s ist vs s' ist' e ∧ vs.length = n ∧
      v = Val.ofList (acc.reverse ++ vs) ∧ em' = em ++ e := by
  intro n
  induction n with
  | zero =>
    intro s ist acc em v s' em'
    simp only [sCollectExactlyLoop, SOut.ok.injEq]
    constructor
    · rintro ⟨rfl, rfl, rfl⟩; exact ⟨[], ist, [], .nil _ _, rfl, by simp, by simp⟩
    · rintro ⟨vs, ist', e, hp, hl, rfl, rfl⟩
      cases hp with
      | nil => simp
      | some _ _ => simp at hl
  | succ n ih =>
    intro s ist acc em v s' em'
    unfold sCollectExactlyLoop
    constructor
    · intro h
      cases hN : N env it s ctx ist with
      | some w s1 ist1 e1 =>
        rw [hN] at h; simp only at h
        obtain ⟨vs, ist', e, hp, hl, hv, he⟩ := (ih _ _ _ _ _ _ _).1 h
        exact ⟨w :: vs, ist', e1 ++ e, .some hN hp, by simp [hl], by simpa using hv, by simp [he]⟩
      | done _ _ _ | fail | panic _ | oof => rw [hN] at h; cases h
    · rintro ⟨vs, ist', e, hp, hl, rfl, rfl⟩
      cases hp with
      | nil => simp at hl
      | some hN hp =>
        rw [hN]; simp only
        exact (ih _ _ _ _ _ _ _).2 ⟨_, _, _, hp, by simpa using hl, by simp, by simp⟩

theorem sCollectExactlyLoop_fail : ∀ n s ist acc em,
    sCollectExactlyLoop N env ctx it n s ist acc em = .fail ↔
    ∃ vs s1 ist1 e, ItemsPre N env ctx it s ist vs s1 ist1 e ∧ vs.length < n ∧
      (N env it s1 ctx ist1 = .fail ∨ ∃ s2 ist2 e2, N env it s1 ctx ist1 = .done s2 ist2 e2) := by
  intro n
  induction n with
  | zero => intro s ist acc em; simp [sCollectExactlyLoop]
  | succ n ih =>
    intro s ist acc em
    unfold sCollectExactlyLoop
    constructor
    · intro h
      cases hN : N env it s ctx ist with
      | some w s1 ist1 e1 =>
        rw [hN] at h; simp only at h
        obtain ⟨vs, s2, ist2, e, hp, hl, hx⟩ := (ih _ _ _ _).1 h
        exact ⟨w :: vs, s2, ist2, _, .some hN hp, by simpa using hl, hx⟩
      | done s1 ist1 e1 => exact ⟨[], s, ist, [], .nil _ _, by simp, .inr ⟨_, _, _, hN⟩⟩
      | fail => exact ⟨[], s, ist, [], .nil _ _, by simp, .inl hN⟩
      | panic _ | oof => rw [hN] at h; cases h
    · rintro ⟨vs, s1, ist1, e, hp, hl, hx⟩
      cases hp with
      | nil =>
        rcases hx with hx | ⟨s2, ist2, e2, hx⟩ <;> rw [hx]
      | some hN hp =>
        rw [hN]; simp only
        exact (ih _ _ _ _).2 ⟨_, _, _, _, hp, by simpa using hl, hx⟩

theorem sFoldlLoop_complete {g : Val → Val → Val} {s ist vs s' e} (h : Items N env ctx it s ist vs s' e) :
    ∀ fuel acc em, vs.length < fuel →
      sFoldlLoop N env ctx it (fun a x _ => g a x) fuel s ist acc em = .ok (vs.foldl g acc) s' (em ++ e) ∨
      sFoldlLoop N env ctx it (fun a x _ => g a x) fuel s ist acc em = .panic pNoProgress := by
  induction h with
  | done h =>
    intro fuel acc em hf
    cases fuel with
    | zero => cases hf
    | succ fuel => left; simp [sFoldlLoop, h]
  | @some s0 ist0 w s1 ist1 e1 vs s2 e2 h _ ih =>
    intro fuel acc em hf
    cases fuel with
    | zero => cases hf
    | succ fuel =>
      unfold sFoldlLoop
      rw [h]; simp only
      split
      · right; rfl
      · have := ih fuel (g acc w) (em ++ e1) (by simpa using hf)
        simpa using this

theorem sIterLoop_complete {ap : Bool} {s ist vs s' e} (h : Items N env ctx it s ist vs s' e) :
    ∀ fuel em, vs.length < fuel →
      sIterLoop N env ctx it ap fuel s ist em = .ok .unit s' (em ++ e) ∨
      sIterLoop N env ctx it ap fuel s ist em = .panic pNoProgress := by
  induction h with
  | done h =>
    intro fuel em hf
    cases fuel with
    | zero => cases hf
    | succ fuel => left; simp [sIterLoop, h]
  | @some s0 ist0 w s1 ist1 e1 vs s2 e2 h _ ih =>
    intro fuel em hf
    cases fuel with
    | zero => cases hf
    | succ fuel =>
      unfold sIterLoop
      rw [h]; simp only
      split
      · right; rfl
      · have := ih fuel (em ++ e1) (by simpa using hf)
        simpa using this

end generic

/-! ## 3. `repeated` -/

/-- a run of consecutive successful items -/
inductive Chain (P : SRunner) (env : Env) (ctx : Val) (a : G) : SS → List Val → SS → List Emis → Prop
  | nil (s) : Chain P env ctx a s [] s []
  | cons {s v s1 e1 vs s2 e2} : P env a s ctx = .ok v s1 e1 → Chain P env ctx a s1 vs s2 e2 →
      Chain P env ctx a s (v :: vs) s2 (e1 ++ e2)

section repeated
variable {P : SRunner} {N : SNextRunner} {env : Env} {ctx : Val} {a : G} {lo : Nat} {hi : Option Nat}

theorem sRepeatedNext_some_iff {s k v s1 ist1 e1} :
    sRepeatedNext P env ctx a lo hi s k id = .some v s1 ist1 e1 ↔
      capReached hi k = false ∧ P env a s ctx = .ok v s1 e1 ∧ ist1 = .cnt (k + 1) := by
  unfold sRepeatedNext
  constructor
  · intro h
    cases hc : capReached hi k with
    | true => rw [hc, if_pos rfl] at h; cases h
    | false =>
      rw [hc] at h; simp only [Bool.false_eq_true, if_false] at h
      cases hP : P env a s ctx with
      | ok w t em => rw [hP] at h; cases h; exact ⟨rfl, rfl, rfl⟩
      | fail => rw [hP] at h; simp only at h; split at h <;> cases h
      | panic _ | oof => rw [hP] at h; cases h
  · rintro ⟨hc, hP, rfl⟩
    rw [hc, hP]; rfl

theorem sRepeatedNext_done_iff {s k s' ist' em} :
    sRepeatedNext P env ctx a lo hi s k id = .done s' ist' em ↔
      s' = s ∧ ist' = .cnt k ∧ em = [] ∧
        (capReached hi k = true ∨ (capReached hi k = false ∧ P env a s ctx = .fail ∧ lo ≤ k)) := by
  unfold sRepeatedNext
  constructor
  · intro h
    cases hc : capReached hi k with
    | true => rw [hc, if_pos rfl] at h; cases h; exact ⟨rfl, rfl, rfl, .inl rfl⟩
    | false =>
      rw [hc] at h; simp only [Bool.false_eq_true, if_false] at h
      cases hP : P env a s ctx with
      | fail =>
        rw [hP] at h; simp only at h
        split at h
        · cases h; exact ⟨rfl, rfl, rfl, .inr ⟨rfl, rfl, ‹_›⟩⟩
        · cases h
      | ok _ _ _ | panic _ | oof => rw [hP] at h; cases h
  · rintro ⟨rfl, rfl, rfl, hc | ⟨hc, hP, hlo⟩⟩
    · rw [hc]; rfl
    · rw [hc, hP]; exact if_pos hlo

theorem sRepeatedNext_fail_iff {s k} :
    sRepeatedNext P env ctx a lo hi s k id = .fail ↔
      capReached hi k = false ∧ P env a s ctx = .fail ∧ k < lo := by
  unfold sRepeatedNext
  constructor
  · intro h
    cases hc : capReached hi k with
    | true => rw [hc, if_pos rfl] at h; cases h
    | false =>
      rw [hc] at h; simp only [Bool.false_eq_true, if_false] at h
      cases hP : P env a s ctx with
      | fail =>
        rw [hP] at h; simp only at h
        split at h
        · cases h
        · exact ⟨rfl, rfl, Nat.lt_of_not_le ‹_›⟩
      | ok _ _ _ | panic _ | oof => rw [hP] at h; cases h
  · rintro ⟨hc, hP, hlo⟩
    rw [hc, hP]; exact if_neg (Nat.not_le.2 hlo)

theorem forall_lt_succ_add {p : Nat → Prop} {k n : Nat} :
    (∀ j < n + 1, p (k + j)) ↔ p k ∧ ∀ j < n, p (k + 1 + j) := by
  constructor
  · intro h
    exact ⟨h 0 (Nat.succ_pos n), fun j hj => by rw [Nat.add_assoc, Nat.add_comm 1]; exact h (j + 1) (Nat.succ_lt_succ hj)⟩
  · rintro ⟨h0, h⟩ j hj
    cases j with
    | zero => exact h0
    | succ j => rw [Nat.add_comm j, ← Nat.add_assoc]; exact h j (Nat.lt_of_succ_lt_succ hj)

theorem forall_le_iff {p : Nat → Prop} {n : Nat} : (∀ j ≤ n, p j) ↔ (∀ j < n, p j) ∧ p n :=
  ⟨fun h => ⟨fun j hj => h j (Nat.le_of_lt hj), h n (Nat.le_refl n)⟩,
   fun h j hj => (Nat.lt_or_eq_of_le hj).elim (h.1 j) (· ▸ h.2)⟩

/-- a prefix of the stream of `repeated`: a chain with no cap reached on the way (`lo` plays no role) -/
theorem repeated_itemsPre_iff
    (hN : ∀ s k, N env (.repeated a lo hi) s ctx (.cnt k) = sRepeatedNext P env ctx a lo hi s k id)
    {s k vs s' ist' e} :
    ItemsPre N env ctx (.repeated a lo hi) s (.cnt k) vs s' ist' e ↔
      Chain P env ctx a s vs s' e ∧ ist' = .cnt (k + vs.length) ∧
      (∀ j < vs.length, capReached hi (k + j) = false) := by
  constructor
  · intro h
    generalize hist : ItSt.cnt k = ist at h
    induction h generalizing k with
    | nil => subst hist; exact ⟨.nil _, rfl, nofun⟩
    | some h _ ih =>
      subst hist
      rw [hN, sRepeatedNext_some_iff] at h
      obtain ⟨hc, hP, rfl⟩ := h
      obtain ⟨hch, hist, hcap⟩ := ih rfl
      exact ⟨.cons hP hch, by rw [hist, List.length_cons, Nat.add_assoc, Nat.add_comm 1],
        (forall_lt_succ_add (p := (capReached hi · = false))).2 ⟨hc, hcap⟩⟩
  · rintro ⟨hch, rfl, hcap⟩
    induction hch generalizing k with
    | nil s => exact .nil _ _
    | cons hP _ ih =>
      obtain ⟨hc, hcap⟩ := (forall_lt_succ_add (p := (capReached hi · = false))).1 hcap
      rw [List.length_cons, Nat.add_comm _ 1, ← Nat.add_assoc]
      exact .some ((hN _ _).trans (sRepeatedNext_some_iff.2 ⟨hc, hP, rfl⟩)) (ih hcap)

/-- **greedy and possessive.** The stream of `repeated` from count `k` is a chain of consecutive
    successful items which ends only where the cap is reached or where the item fails (never
    earlier); in the latter case the count is at least `lo`; the final position is just after the
    last item. (At the cap `next` says `done` without looking at `lo`: see `repeated_items_iff_wf`
    for well-formed bounds.) -/
theorem repeated_items_iff
    (hN : ∀ s k, N env (.repeated a lo hi) s ctx (.cnt k) = sRepeatedNext P env ctx a lo hi s k id)
    {s k vs s' e} :
    Items N env ctx (.repeated a lo hi) s (.cnt k) vs s' e ↔
      Chain P env ctx a s vs s' e ∧
      (capReached hi (k + vs.length) = true ∨ (P env a s' ctx = .fail ∧ lo ≤ k + vs.length)) ∧
      (∀ j < vs.length, capReached hi (k + j) = false) := by
  rw [Items_iff_pre]
  constructor
  · rintro ⟨s1, ist1, e1, ist', e2, hp, hd, rfl⟩
    obtain ⟨hch, rfl, hcap⟩ := (repeated_itemsPre_iff hN).1 hp
    rw [hN, sRepeatedNext_done_iff] at hd
    obtain ⟨rfl, -, rfl, hstop⟩ := hd
    exact ⟨by rw [List.append_nil]; exact hch, hstop.imp_right And.right, hcap⟩
  · rintro ⟨hch, hstop, hcap⟩
    refine ⟨s', _, e, .cnt (k + vs.length), [], (repeated_itemsPre_iff hN).2 ⟨hch, rfl, hcap⟩, ?_, (List.append_nil e).symm⟩
    rw [hN, sRepeatedNext_done_iff]
    refine ⟨rfl, rfl, rfl, ?_⟩
    cases hc : capReached hi (k + vs.length) with
    | true => exact .inl rfl
    | false => exact .inr ⟨rfl, hstop.resolve_left (by rw [hc]; nofun)⟩

theorem capReached_true_iff {hi : Option Nat} {n : Nat} :
    capReached hi n = true ↔ ∃ h, hi = some h ∧ h ≤ n := by
  cases hi <;> simp [capReached]

theorem capReached_false_iff {hi : Option Nat} {n : Nat} :
    capReached hi n = false ↔ ∀ h, hi = some h → n < h := by
  cases hi <;> simp [capReached]

/-- with well-formed bounds (`at_least ≤ at_most`) the form of the design: the count is within
    `[lo, hi]`, and the chain stops only at the cap or where the item fails -/
theorem repeated_items_iff_wf
    (hN : ∀ s k, N env (.repeated a lo hi) s ctx (.cnt k) = sRepeatedNext P env ctx a lo hi s k id)
    (hwf : ∀ h, hi = some h → lo ≤ h) {s k vs s' e} :
    Items N env ctx (.repeated a lo hi) s (.cnt k) vs s' e ↔
      Chain P env ctx a s vs s' e ∧ lo ≤ k + vs.length ∧
      (capReached hi (k + vs.length) = true ∨ P env a s' ctx = .fail) ∧
      (∀ j < vs.length, capReached hi (k + j) = false) := by
  rw [repeated_items_iff hN]
  constructor
  · rintro ⟨hch, hstop, hcap⟩
    refine ⟨hch, ?_, hstop.imp_right And.left, hcap⟩
    rcases hstop with h | ⟨_, h⟩
    · obtain ⟨m, hm, hle⟩ := capReached_true_iff.1 h
      exact Nat.le_trans (hwf m hm) hle
    · exact h
  · rintro ⟨hch, hlo, hstop, hcap⟩
    exact ⟨hch, hstop.imp_right (⟨·, hlo⟩), hcap⟩

theorem repeated_itemsFail_iff
    (hN : ∀ s k, N env (.repeated a lo hi) s ctx (.cnt k) = sRepeatedNext P env ctx a lo hi s k id)
    {s k vs s'} :
    ItemsFail N env ctx (.repeated a lo hi) s (.cnt k) vs s' ↔
      ∃ e, Chain P env ctx a s vs s' e ∧ k + vs.length < lo ∧ P env a s' ctx = .fail ∧
        (∀ j ≤ vs.length, capReached hi (k + j) = false) := by
  constructor
  · rintro ⟨ist1, e, hp, hf⟩
    obtain ⟨hch, rfl, hcap⟩ := (repeated_itemsPre_iff hN).1 hp
    rw [hN, sRepeatedNext_fail_iff] at hf
    exact ⟨e, hch, hf.2.2, hf.2.1, forall_le_iff.2 ⟨hcap, hf.1⟩⟩
  · rintro ⟨e, hch, hk, hP, hcap⟩
    obtain ⟨hcap, hc⟩ := forall_le_iff.1 hcap
    exact ⟨_, e, (repeated_itemsPre_iff hN).2 ⟨hch, rfl, hcap⟩,
      (hN _ _).trans (sRepeatedNext_fail_iff.2 ⟨hc, hP, hk⟩)⟩

/-- the C02 reading of a fresh `repeated`: a chain of items in input order, at most `hi` of them,
    which stops only because `hi` items were taken or because the item fails just after the last
    one (and then at least `lo` were taken) -/
def RepRun (P : SRunner) (env : Env) (ctx : Val) (a : G) (lo : Nat) (hi : Option Nat)
    (s : SS) (vs : List Val) (s' : SS) (e : List Emis) : Prop :=
  Chain P env ctx a s vs s' e ∧ (∀ h, hi = some h → vs.length ≤ h) ∧
  (hi = some vs.length ∨ (P env a s' ctx = .fail ∧ lo ≤ vs.length))

theorem RepRun.chain {s vs s' e} (h : RepRun P env ctx a lo hi s vs s' e) : Chain P env ctx a s vs s' e := h.1
theorem RepRun.le_hi {s vs s' e} (h : RepRun P env ctx a lo hi s vs s' e) :
    ∀ m, hi = some m → vs.length ≤ m := h.2.1
theorem RepRun.stop {s vs s' e} (h : RepRun P env ctx a lo hi s vs s' e) :
    hi = some vs.length ∨ P env a s' ctx = .fail := by
  rcases h.2.2 with h | h
  · exact .inl h
  · exact .inr h.1
theorem RepRun.lo_le {s vs s' e} (h : RepRun P env ctx a lo hi s vs s' e) (hwf : ∀ m, hi = some m → lo ≤ m) :
    lo ≤ vs.length := by
  rcases h.2.2 with h | h
  · exact hwf _ h
  · exact h.2

theorem forall_lt_lt_iff {n h : Nat} : (∀ j < n, j < h) ↔ n ≤ h := by
  constructor
  · intro H
    cases n with
    | zero => omega
    | succ n => have := H n (by omega); omega
  · intro H j hj; omega

theorem repeated_items_zero
    (hN : ∀ s k, N env (.repeated a lo hi) s ctx (.cnt k) = sRepeatedNext P env ctx a lo hi s k id)
    {s vs s' e} :
    Items N env ctx (.repeated a lo hi) s (.cnt 0) vs s' e ↔ RepRun P env ctx a lo hi s vs s' e := by
  rw [repeated_items_iff hN]
  unfold RepRun
  simp only [Nat.zero_add]
  cases hi with
  | none => simp [capReached]
  | some h =>
    simp only [capReached, ge_iff_le, decide_eq_true_eq, decide_eq_false_iff_not, Nat.not_le,
      forall_lt_lt_iff, Option.some.injEq, forall_eq']
    constructor
    · rintro ⟨hc, hs, hl⟩
      refine ⟨hc, hl, ?_⟩
      rcases hs with hs | hs
      · left; omega
      · right; exact hs
    · rintro ⟨hc, hl, hs⟩
      refine ⟨hc, ?_, hl⟩
      rcases hs with hs | hs
      · left; omega
      · right; exact hs

/-- the fast path of `Repeated::go` (`at_least = 0`, unbounded): items until the item fails -/
theorem sRepeatFast_sound : ∀ fuel s em v s' em',
    sRepeatFast P env ctx a fuel s em = .ok v s' em' →
    ∃ vs e, RepRun P env ctx a 0 none s vs s' e ∧ v = .unit ∧ em' = em ++ e := by
  intro fuel
  induction fuel with
  | zero => intro s em v s' em' h; simp [sRepeatFast] at h
  | succ fuel ih =>
    intro s em v s' em' h
    unfold sRepeatFast at h
    cases hP : P env a s ctx with
    | ok w s1 e1 =>
      rw [hP] at h; simp only at h
      split at h
      · cases h
      · obtain ⟨vs, e, ⟨hch, _, hs⟩, hv, he⟩ := ih _ _ _ _ _ h
        refine ⟨w :: vs, e1 ++ e, ⟨.cons hP hch, by simp, ?_⟩, hv, by simp [he]⟩
        rcases hs with hs | hs
        · cases hs
        · exact .inr ⟨hs.1, Nat.zero_le _⟩
    | fail =>
      rw [hP] at h; simp only [SOut.ok.injEq] at h
      obtain ⟨rfl, rfl, rfl⟩ := h
      exact ⟨[], [], ⟨.nil _, by simp, .inr ⟨hP, Nat.le_refl _⟩⟩, rfl, by simp⟩
    | panic _ | oof => rw [hP] at h; cases h

end repeated

/-! ### `enumerate` -/

/-- the items numbered from `k` -/
def enumVals : Nat → List Val → List Val
  | _, [] => []
  | k, v :: vs => .pair (.nat k) v :: enumVals (k + 1) vs

theorem enumVals_length (k : Nat) (vs : List Val) : (enumVals k vs).length = vs.length := by
  induction vs generalizing k with
  | nil => rfl
  | cons v vs ih => simp [enumVals, ih]

/-- `enumerate` sees exactly the stream of the inner iterator, each item paired with its index -/
theorem enumerate_items_iff {N N' : SNextRunner} {env : Env} {ctx : Val} {inner : It}
    (hN : ∀ s k st, N env (.enumerate inner) s ctx (.enum k st) =
      match N' env inner s ctx st with
      | .some v s1 st1 em => .some (.pair (.nat k) v) s1 (.enum (k + 1) st1) em
      | .done s1 st1 em => .done s1 (.enum (k + 1) st1) em
      | .fail => .fail
      | .panic w => .panic w
      | .oof => .oof) {s k st vs s' e} :
    Items N env ctx (.enumerate inner) s (.enum k st) vs s' e ↔
      ∃ ws, Items N' env ctx inner s st ws s' e ∧ vs = enumVals k ws := by
  constructor
  · intro h
    generalize hist : ItSt.enum k st = ist at h
    induction h generalizing k st with
    | done h =>
      subst hist
      rw [hN] at h
      cases hN' : N' env inner _ ctx st with
      | done s1 st1 e1 =>
        rw [hN'] at h; cases h
        exact ⟨[], .done hN', rfl⟩
      | some _ _ _ _ | fail | panic _ | oof => rw [hN'] at h; cases h
    | some h _ ih =>
      subst hist
      rw [hN] at h
      cases hN' : N' env inner _ ctx st with
      | some w s1 st1 e1 =>
        rw [hN'] at h; cases h
        obtain ⟨ws, hI, rfl⟩ := ih rfl
        exact ⟨w :: ws, .some hN' hI, rfl⟩
      | done _ _ _ | fail | panic _ | oof => rw [hN'] at h; cases h
  · rintro ⟨ws, h, rfl⟩
    induction h generalizing k with
    | @done s0 st0 s1 st1 e1 h =>
      refine .done (ist' := .enum (k + 1) st1) ?_
      rw [hN, h]
    | @some s0 st0 w s1 st1 e1 ws s2 e2 h _ ih =>
      refine .some (ist1 := .enum (k + 1) st1) ?_ ih
      rw [hN, h]

section top
variable {env : Env} {ctx : Val}

theorem peg_succ (n : Nat) : peg (n + 1) = pegStep (peg n) (pegNext' n) (pegMk' n) n := by rw [peg]
theorem pegNext'_succ (n : Nat) : pegNext' (n + 1) = pegNext (peg n) (pegNext' n) (pegMk' n) := by rw [pegNext']
theorem pegMk'_succ (n : Nat) : pegMk' (n + 1) = pegMk (peg n) (pegMk' n) := by rw [pegMk']

theorem pegNext'_repeated (n : Nat) {a lo hi} (s : SS) (k : Nat) :
    pegNext' (n + 1) env (.repeated a lo hi) s ctx (.cnt k) = sRepeatedNext (peg n) env ctx a lo hi s k id := by
  rw [pegNext'_succ]; rfl

theorem pegMk'_repeated (n : Nat) {a lo hi} (s : SS) :
    pegMk' (n + 1) env (.repeated a lo hi) s ctx = .ok (.cnt 0) s [] := by
  rw [pegMk'_succ]; rfl

/-- `collect` at top level: the iterator is made, then its whole stream is collected, in order -/
theorem peg_collect_items {n k it s v s' em} (h : peg (n + 1) env (.collect k it) s ctx = .ok v s' em) :
    ∃ ist s1 e1 vs e2, pegMk' n env it s ctx = .ok ist s1 e1 ∧
      Items (pegNext' n) env ctx it s1 ist vs s' e2 ∧ v = sCollectOut k vs ∧ em = e1 ++ e2 := by
  rw [peg_succ] at h
  simp only [step_eqs] at h
  cases hK : pegMk' n env it s ctx with
  | ok ist s1 e1 =>
    rw [hK] at h; simp only at h
    obtain ⟨vs, e, hI, hv, he⟩ := sCollectLoop_sound _ _ _ _ _ _ _ _ _ h
    exact ⟨ist, s1, e1, vs, e, rfl, hI, by simpa using hv, he⟩
  | fail | panic _ | oof => rw [hK] at h; cases h

/-- `collect_exactly(m)` at top level: exactly `m` calls of `next` return items -/
theorem peg_collectExactly_items {n m it s v s' em} :
    peg (n + 1) env (.collectExactly m it) s ctx = .ok v s' em ↔
    ∃ ist s1 e1 vs ist' e2, pegMk' n env it s ctx = .ok ist s1 e1 ∧
      ItemsPre (pegNext' n) env ctx it s1 ist vs s' ist' e2 ∧ vs.length = m ∧
      v = Val.ofList vs ∧ em = e1 ++ e2 := by
  rw [peg_succ]
  simp only [step_eqs]
  cases hK : pegMk' n env it s ctx with
  | ok ist s1 e1 =>
    simp only [sCollectExactlyLoop_ok, SMkOut.ok.injEq]
    constructor
    · rintro ⟨vs, ist', e, hp, hl, hv, he⟩
      exact ⟨ist, s1, e1, vs, ist', e, ⟨rfl, rfl, rfl⟩, hp, hl, by simpa using hv, he⟩
    · rintro ⟨_, _, _, vs, ist', e, ⟨rfl, rfl, rfl⟩, hp, hl, hv, he⟩
      exact ⟨vs, ist', e, hp, hl, by simpa using hv, he⟩
  | fail | panic _ | oof => simp

/-- `foldl` at top level: the stream folded from the left, starting from the value of `a0` -/
theorem peg_foldl_items {n f a0 it s v s' em} (h : peg (n + 1) env (.foldl f a0 it) s ctx = .ok v s' em) :
    ∃ v0 s0 e0 ist s1 e1 vs e2, peg n env a0 s ctx = .ok v0 s0 e0 ∧
      pegMk' n env it s0 ctx = .ok ist s1 e1 ∧
      Items (pegNext' n) env ctx it s1 ist vs s' e2 ∧ v = vs.foldl f.evalL v0 ∧ em = e0 ++ e1 ++ e2 := by
  rw [peg_succ] at h
  simp only [step_eqs] at h
  cases hA : peg n env a0 s ctx with
  | ok v0 s0 e0 =>
    rw [hA] at h; simp only [SOut.andThen] at h
    cases hK : pegMk' n env it s0 ctx with
    | ok ist s1 e1 =>
      rw [hK] at h; simp only at h
      obtain ⟨vs, e, hI, hv, he⟩ := sFoldlLoop_sound (g := f.evalL) _ _ _ _ _ _ _ _ h
      exact ⟨v0, s0, e0, ist, s1, e1, vs, e, rfl, hK, hI, hv, he⟩
    | fail | panic _ | oof => rw [hK] at h; cases h
  | fail | panic _ | oof => rw [hA] at h; cases h

/-- `foldr` at top level: the stream folded from the right onto the value of `b` -/
theorem peg_foldr_items {n f it b s v s' em} (h : peg (n + 1) env (.foldr f it b) s ctx = .ok v s' em) :
    ∃ ist s1 e1 vs s2 e2 vb e3, pegMk' n env it s ctx = .ok ist s1 e1 ∧
      Items (pegNext' n) env ctx it s1 ist vs s2 e2 ∧ peg n env b s2 ctx = .ok vb s' e3 ∧
      v = List.foldr f.evalR vb vs ∧ em = e1 ++ e2 ++ e3 := by
  rw [peg_succ] at h
  simp only [step_eqs] at h
  cases hK : pegMk' n env it s ctx with
  | ok ist s1 e1 =>
    rw [hK] at h; simp only at h
    cases hF : sFoldrCollect (pegNext' n) env ctx it n s1 ist [] e1 with
    | inr o => rw [hF] at h; simp only at h; subst h; exact absurd hF (sFoldrCollect_ne_ok _ _ _ _ _ _ _ _)
    | inl r =>
      cases r with
      | none => rw [hF] at h; cases h
      | some r =>
        obtain ⟨items, s2, e2'⟩ := r
        rw [hF] at h; simp only at h
        obtain ⟨vs, e2, hI, hv, he⟩ := sFoldrCollect_sound _ _ _ _ _ _ _ _ hF
        cases hB : peg n env b s2 ctx with
        | ok vb s3 e3 =>
          rw [hB] at h; simp only [SOut.andThen, SOut.ok.injEq] at h
          obtain ⟨rfl, rfl, rfl⟩ := h
          refine ⟨ist, s1, e1, vs, s2, e2, vb, e3, rfl, hI, hB, ?_, by simp [he]⟩
          rw [foldr_final, hv]; simp
        | fail | panic _ | oof => rw [hB] at h; cases h
  | fail | panic _ | oof => rw [hK] at h; cases h

/-- `IterParser` used as a plain parser (counted loop, `repeated`/`separated_by`): the stream is
    driven to its end, output `()` -/
theorem pegStep_iterP_repeated_slow {P N K L} {a lo hi s} (h : lo ≠ 0 ∨ hi ≠ none) :
    pegStep P N K L env (.iterP (.repeated a lo hi)) s ctx =
      match K env (.repeated a lo hi) s ctx with
      | .ok ist s1 em => sIterLoop N env ctx (.repeated a lo hi) true L s1 ist em
      | .fail => .fail
      | .panic w => .panic w
      | .oof => .oof := by
  rcases lo with _ | lo <;> rcases hi with _ | hi <;> simp at h <;> rfl

theorem pegStep_iterP_separatedBy {P N K L} {a sep lo hi lead trail s} :
    pegStep P N K L env (.iterP (.separatedBy a sep lo hi lead trail)) s ctx =
      match K env (.separatedBy a sep lo hi lead trail) s ctx with
      | .ok ist s1 em => sIterLoop N env ctx (.separatedBy a sep lo hi lead trail) true L s1 ist em
      | .fail => .fail
      | .panic w => .panic w
      | .oof => .oof := rfl

/-- `repeated().collect()` -/
theorem peg_collect_repeated {n k a lo hi s v s' em}
    (h : peg (n + 2) env (.collect k (.repeated a lo hi)) s ctx = .ok v s' em) :
    ∃ vs, RepRun (peg n) env ctx a lo hi s vs s' em ∧ v = sCollectOut k vs := by
  obtain ⟨ist, s1, e1, vs, e2, hK, hI, hv, rfl⟩ := peg_collect_items h
  rw [pegMk'_repeated] at hK
  cases hK
  exact ⟨vs, by simpa using (repeated_items_zero (pegNext'_repeated n)).1 hI, hv⟩

/-- `repeated().collect::<Vec<_>>()` in the form of the design (bounds well-formed) -/
theorem peg_collect_vec_repeated {n a lo hi s v s' em} (hwf : ∀ h, hi = some h → lo ≤ h)
    (h : peg (n + 2) env (.collect .vec (.repeated a lo hi)) s ctx = .ok v s' em) :
    ∃ vs, Chain (peg n) env ctx a s vs s' em ∧ v = Val.ofList vs ∧ lo ≤ vs.length ∧
      (∀ h, hi = some h → vs.length ≤ h) ∧ (hi = some vs.length ∨ peg n env a s' ctx = .fail) := by
  obtain ⟨vs, hr, rfl⟩ := peg_collect_repeated h
  exact ⟨vs, hr.chain, rfl, hr.lo_le hwf, hr.le_hi, hr.stop⟩

/-- `repeated().count()` -/
theorem peg_collect_count_repeated {n a lo hi s v s' em} (hwf : ∀ h, hi = some h → lo ≤ h)
    (h : peg (n + 2) env (.collect .count (.repeated a lo hi)) s ctx = .ok v s' em) :
    ∃ vs, Chain (peg n) env ctx a s vs s' em ∧ v = .nat vs.length ∧ lo ≤ vs.length ∧
      (∀ h, hi = some h → vs.length ≤ h) ∧ (hi = some vs.length ∨ peg n env a s' ctx = .fail) := by
  obtain ⟨vs, hr, rfl⟩ := peg_collect_repeated h
  exact ⟨vs, hr.chain, rfl, hr.lo_le hwf, hr.le_hi, hr.stop⟩

/-- `a0.foldl(repeated(), f)` -/
theorem peg_foldl_repeated {n f a0 a lo hi s v s' em}
    (h : peg (n + 2) env (.foldl f a0 (.repeated a lo hi)) s ctx = .ok v s' em) :
    ∃ v0 s0 e0 vs e, peg (n + 1) env a0 s ctx = .ok v0 s0 e0 ∧
      RepRun (peg n) env ctx a lo hi s0 vs s' e ∧ v = vs.foldl f.evalL v0 ∧ em = e0 ++ e := by
  obtain ⟨v0, s0, e0, ist, s1, e1, vs, e2, hA, hK, hI, hv, rfl⟩ := peg_foldl_items h
  rw [pegMk'_repeated] at hK
  cases hK
  exact ⟨v0, s0, e0, vs, e2, hA, (repeated_items_zero (pegNext'_repeated n)).1 hI, hv, by simp⟩

/-- `repeated().foldr(b, f)` -/
theorem peg_foldr_repeated {n f a lo hi b s v s' em}
    (h : peg (n + 2) env (.foldr f (.repeated a lo hi) b) s ctx = .ok v s' em) :
    ∃ vs s2 e2 vb e3, RepRun (peg n) env ctx a lo hi s vs s2 e2 ∧
      peg (n + 1) env b s2 ctx = .ok vb s' e3 ∧ v = List.foldr f.evalR vb vs ∧ em = e2 ++ e3 := by
  obtain ⟨ist, s1, e1, vs, s2, e2, vb, e3, hK, hI, hB, hv, rfl⟩ := peg_foldr_items h
  rw [pegMk'_repeated] at hK
  cases hK
  exact ⟨vs, s2, e2, vb, e3, (repeated_items_zero (pegNext'_repeated n)).1 hI, hB, hv, by simp⟩

/-- `repeated()` as a plain parser, counted loop (`at_least > 0` or bounded) -/
theorem peg_iterP_repeated_slow {n a lo hi s v s' em} (hb : lo ≠ 0 ∨ hi ≠ none)
    (h : peg (n + 2) env (.iterP (.repeated a lo hi)) s ctx = .ok v s' em) :
    ∃ vs, RepRun (peg n) env ctx a lo hi s vs s' em ∧ v = .unit := by
  rw [peg_succ, pegStep_iterP_repeated_slow hb, pegMk'_repeated] at h
  simp only at h
  obtain ⟨vs, e, hI, hv, he⟩ := sIterLoop_sound _ _ _ _ _ _ _ h
  refine ⟨vs, ?_, hv⟩
  have := (repeated_items_zero (pegNext'_repeated n)).1 hI
  simpa [he] using this

/-- `repeated()` as a plain parser, fast path (`at_least = 0`, unbounded): the items are run by the
    enclosing level directly -/
theorem peg_iterP_repeated_fast {n a s v s' em}
    (h : peg (n + 1) env (.iterP (.repeated a 0 none)) s ctx = .ok v s' em) :
    ∃ vs, RepRun (peg n) env ctx a 0 none s vs s' em ∧ v = .unit := by
  rw [peg_succ] at h
  simp only [step_eqs] at h
  obtain ⟨vs, e, hr, hv, he⟩ := sRepeatFast_sound _ _ _ _ _ _ h
  exact ⟨vs, by simpa [he] using hr, hv⟩

/-- `repeated().collect_exactly(m)`: succeeds iff `m` consecutive items match and `m ≤ at_most`;
    `at_least` is never consulted and nothing is tried after the `m`-th item -/
theorem peg_collectExactly_repeated {n m a lo hi s v s' em} :
    peg (n + 2) env (.collectExactly m (.repeated a lo hi)) s ctx = .ok v s' em ↔
    ∃ vs, Chain (peg n) env ctx a s vs s' em ∧ vs.length = m ∧ v = Val.ofList vs ∧
      (∀ h, hi = some h → m ≤ h) := by
  rw [peg_collectExactly_items]
  constructor
  · rintro ⟨ist, s1, e1, vs, ist', e2, hK, hp, rfl, rfl, rfl⟩
    rw [pegMk'_repeated] at hK
    cases hK
    obtain ⟨hch, _, hcap⟩ := (repeated_itemsPre_iff (pegNext'_repeated n)).1 hp
    refine ⟨vs, by simpa using hch, rfl, rfl, ?_⟩
    intro h hh
    refine forall_lt_lt_iff.1 (fun j hj => ?_)
    have := capReached_false_iff.1 (hcap j hj) h hh
    simpa using this
  · rintro ⟨vs, hch, rfl, rfl, hcap⟩
    refine ⟨_, _, _, vs, .cnt (0 + vs.length), em, pegMk'_repeated n s, ?_, rfl, rfl, by simp⟩
    refine (repeated_itemsPre_iff (pegNext'_repeated n)).2 ⟨hch, rfl, ?_⟩
    intro j hj
    rw [capReached_false_iff]
    intro h hh
    have := hcap h hh
    omega

theorem pegNext'_enumerate (n : Nat) {inner} (s : SS) (k : Nat) (st : ItSt) :
    pegNext' (n + 1) env (.enumerate inner) s ctx (.enum k st) =
      match pegNext' n env inner s ctx st with
      | .some v s1 st1 em => .some (.pair (.nat k) v) s1 (.enum (k + 1) st1) em
      | .done s1 st1 em => .done s1 (.enum (k + 1) st1) em
      | .fail => .fail
      | .panic w => .panic w
      | .oof => .oof := by
  rw [pegNext'_succ]; rfl

/-- `repeated().enumerate().collect()`: the same greedy run, each item paired with its index -/
theorem peg_collect_enumerate_repeated {n k a lo hi s v s' em}
    (h : peg (n + 3) env (.collect k (.enumerate (.repeated a lo hi))) s ctx = .ok v s' em) :
    ∃ vs, RepRun (peg n) env ctx a lo hi s vs s' em ∧ v = sCollectOut k (enumVals 0 vs) := by
  obtain ⟨ist, s1, e1, vs, e2, hK, hI, hv, rfl⟩ := peg_collect_items h
  have hK' : pegMk' (n + 2) env (.enumerate (.repeated a lo hi)) s ctx = .ok (.enum 0 (.cnt 0)) s [] := by
    rw [pegMk'_succ]; simp only [pegMk, pegMk'_repeated]
  rw [hK'] at hK
  cases hK
  obtain ⟨ws, hI', rfl⟩ := (enumerate_items_iff (pegNext'_enumerate (n + 1))).1 hI
  exact ⟨ws, by simpa using (repeated_items_zero (pegNext'_repeated n)).1 hI', hv⟩

end top

/-! ## 4. `separated_by` -/

/-- the item step of `SeparatedBy::next`, after the (optional) separator ended at `s0` with
    emissions `e0`; `s` is the position before the separator -/
def sepItem (P : SRunner) (env : Env) (ctx : Val) (a : G) (lo : Nat) (trail : Bool)
    (s : SS) (n : Nat) (s0 : SS) (e0 : List Emis) : SItOut :=
  match P env a s0 ctx with
  | .ok v s1 em => .some v s1 (.cnt (n + 1)) (e0 ++ em)
  | .fail =>
    if n < lo then .fail
    else if trail then .done s0 (.cnt n) e0
    else .done s (.cnt n) []
  | .panic w => .panic w
  | .oof => .oof

/-- the optional leading separator: taken iff `allow_leading` and it matches -/
inductive Lead (P : SRunner) (env : Env) (ctx : Val) (sep : G) (lead : Bool) (s : SS) :
    SS → List Emis → Prop
  | took {w s0 e0} : lead = true → P env sep s ctx = .ok w s0 e0 → Lead P env ctx sep lead s s0 e0
  | skip : (lead = false ∨ P env sep s ctx = .fail) → Lead P env ctx sep lead s s []

/-- the leading-separator step of `SeparatedBy::next` at count 0, followed by `X` -/
def leadStep (P : SRunner) (env : Env) (ctx : Val) (sep : G) (lead : Bool) (s : SS)
    (X : SS → List Emis → SItOut) : SItOut :=
  if lead then
    match P env sep s ctx with
    | .ok _ s1 e1 => X s1 e1
    | .fail => X s []
    | .panic w => .panic w
    | .oof => .oof
  else X s []

/-- `(sep item)*`: every separator is followed by an accepted item -/
inductive SepTail (P : SRunner) (env : Env) (ctx : Val) (a sep : G) :
    SS → List Val → SS → List Emis → Prop
  | nil (s) : SepTail P env ctx a sep s [] s []
  | cons {s w s1 e1 v s2 e2 vs s3 e3} : P env sep s ctx = .ok w s1 e1 → P env a s1 ctx = .ok v s2 e2 →
      SepTail P env ctx a sep s2 vs s3 e3 → SepTail P env ctx a sep s (v :: vs) s3 (e1 ++ e2 ++ e3)

/-- why and where the stream stops after `n ≥ 1` items, the last of which ended at `sm`:
    the result position and the emissions of what is consumed after `sm` -/
inductive SepStop (P : SRunner) (env : Env) (ctx : Val) (a sep : G) (lo : Nat) (hi : Option Nat)
    (trail : Bool) (n : Nat) (sm : SS) : SS → List Emis → Prop
  /-- the cap: no trailing separator is looked for (and `lo` is not consulted) -/
  | cap : capReached hi n = true → SepStop P env ctx a sep lo hi trail n sm sm []
  /-- the separator fails -/
  | sepFail : capReached hi n = false → P env sep sm ctx = .fail → lo ≤ n →
      SepStop P env ctx a sep lo hi trail n sm sm []
  /-- separator matched, item after it fails, `allow_trailing`: the separator is kept -/
  | itemFailKeep {w ss es} : capReached hi n = false → P env sep sm ctx = .ok w ss es →
      P env a ss ctx = .fail → lo ≤ n → trail = true → SepStop P env ctx a sep lo hi trail n sm ss es
  /-- separator matched, item after it fails, no `allow_trailing`: the separator is given back -/
  | itemFailBack {w ss es} : capReached hi n = false → P env sep sm ctx = .ok w ss es →
      P env a ss ctx = .fail → lo ≤ n → trail = false → SepStop P env ctx a sep lo hi trail n sm sm []

/-- the C02 reading of a fresh `separated_by`:
    `[sep]? item (sep item)* [sep]?` or nothing -/
inductive SepRun (P : SRunner) (env : Env) (ctx : Val) (a sep : G) (lo : Nat) (hi : Option Nat)
    (lead trail : Bool) (s : SS) : List Val → SS → List Emis → Prop
  /-- `at_most = 0` -/
  | capZero : capReached hi 0 = true → SepRun P env ctx a sep lo hi lead trail s [] s []
  /-- no item, `allow_trailing`: a leading separator that was taken is kept -/
  | emptyKeep {s0 e0} : capReached hi 0 = false → lo = 0 → Lead P env ctx sep lead s s0 e0 →
      P env a s0 ctx = .fail → trail = true → SepRun P env ctx a sep lo hi lead trail s [] s0 e0
  /-- no item, no `allow_trailing`: back to the start -/
  | emptyBack {s0 e0} : capReached hi 0 = false → lo = 0 → Lead P env ctx sep lead s s0 e0 →
      P env a s0 ctx = .fail → trail = false → SepRun P env ctx a sep lo hi lead trail s [] s []
  | items {s0 e0 v s1 e1 vs sm em s' et} : capReached hi 0 = false → Lead P env ctx sep lead s s0 e0 →
      P env a s0 ctx = .ok v s1 e1 → SepTail P env ctx a sep s1 vs sm em →
      SepStop P env ctx a sep lo hi trail (1 + vs.length) sm s' et →
      (∀ j < vs.length, capReached hi (1 + j) = false) →
      SepRun P env ctx a sep lo hi lead trail s (v :: vs) s' (e0 ++ e1 ++ (em ++ et))

section separated
variable {P : SRunner} {N : SNextRunner} {env : Env} {ctx : Val} {a sep : G} {lo : Nat}
  {hi : Option Nat} {lead trail : Bool}

theorem sSeparatedNext_pos {s n} (hn : 0 < n) :
    sSeparatedNext P env ctx a sep lo hi lead trail s n =
      if capReached hi n then .done s (.cnt n) [] else
        match P env sep s ctx with
        | .ok _ s1 e1 => sepItem P env ctx a lo trail s n s1 e1
        | .fail => if n < lo then .fail else .done s (.cnt n) []
        | .panic w => .panic w
        | .oof => .oof := by
  unfold sSeparatedNext sepItem
  have h0 : (n == 0) = false := by simp; omega
  simp only [h0, Bool.false_and, Bool.false_eq_true, if_false, gt_iff_lt, hn, if_true]
  rfl

theorem sSeparatedNext_zero {s} :
    sSeparatedNext P env ctx a sep lo hi lead trail s 0 =
      if capReached hi 0 then .done s (.cnt 0) [] else
        leadStep P env ctx sep lead s (sepItem P env ctx a lo trail s 0) := by
  unfold sSeparatedNext sepItem leadStep
  cases lead <;> rfl

theorem leadStep_eq_iff {X : SS → List Emis → SItOut} {s r} (hp : ∀ w, r ≠ .panic w) (ho : r ≠ .oof) :
    leadStep P env ctx sep lead s X = r ↔ ∃ s0 e0, Lead P env ctx sep lead s s0 e0 ∧ X s0 e0 = r := by
  unfold leadStep
  constructor
  · intro h
    cases lead with
    | false => exact ⟨s, [], .skip (.inl rfl), h⟩
    | true =>
      rw [if_pos rfl] at h
      cases hS : P env sep s ctx with
      | ok w ss es => rw [hS] at h; exact ⟨ss, es, .took rfl hS, h⟩
      | fail => rw [hS] at h; exact ⟨s, [], .skip (.inr hS), h⟩
      | panic w => rw [hS] at h; exact absurd h.symm (hp w)
      | oof => rw [hS] at h; exact absurd h.symm ho
  · rintro ⟨s0, e0, hl, h⟩
    cases hl with
    | took hlead hS => rw [hlead, if_pos rfl, hS]; exact h
    | skip hx =>
      cases lead with
      | false => exact h
      | true => rw [if_pos rfl, hx.resolve_left nofun]; exact h

theorem sepItem_some_iff {s n s0 e0 v s1 ist1 e} :
    sepItem P env ctx a lo trail s n s0 e0 = .some v s1 ist1 e ↔
      ∃ em, P env a s0 ctx = .ok v s1 em ∧ ist1 = .cnt (n + 1) ∧ e = e0 ++ em := by
  unfold sepItem
  constructor
  · intro h
    cases hP : P env a s0 ctx with
    | ok w t em => rw [hP] at h; cases h; exact ⟨em, rfl, rfl, rfl⟩
    | fail =>
      rw [hP] at h; simp only at h
      split at h
      · cases h
      · split at h <;> cases h
    | panic _ | oof => rw [hP] at h; cases h
  · rintro ⟨em, hP, rfl, rfl⟩
    rw [hP]

theorem sepItem_done_iff {s n s0 e0 s' ist' e} :
    sepItem P env ctx a lo trail s n s0 e0 = .done s' ist' e ↔
      P env a s0 ctx = .fail ∧ lo ≤ n ∧ ist' = .cnt n ∧
        ((trail = true ∧ s' = s0 ∧ e = e0) ∨ (trail = false ∧ s' = s ∧ e = [])) := by
  unfold sepItem
  constructor
  · intro h
    cases hP : P env a s0 ctx with
    | fail =>
      rw [hP] at h; simp only at h
      split at h
      · cases h
      · cases trail with
        | true => cases h; exact ⟨rfl, Nat.le_of_not_lt ‹_›, rfl, .inl ⟨rfl, rfl, rfl⟩⟩
        | false => cases h; exact ⟨rfl, Nat.le_of_not_lt ‹_›, rfl, .inr ⟨rfl, rfl, rfl⟩⟩
    | ok _ _ _ | panic _ | oof => rw [hP] at h; cases h
  · rintro ⟨hP, hlo, rfl, ⟨rfl, rfl, rfl⟩ | ⟨rfl, rfl, rfl⟩⟩ <;> rw [hP] <;> exact if_neg (Nat.not_lt.2 hlo)

theorem sepItem_fail_iff {s n s0 e0} :
    sepItem P env ctx a lo trail s n s0 e0 = .fail ↔ P env a s0 ctx = .fail ∧ n < lo := by
  unfold sepItem
  constructor
  · intro h
    cases hP : P env a s0 ctx with
    | fail =>
      rw [hP] at h; simp only at h
      split at h
      · exact ⟨rfl, ‹_›⟩
      · split at h <;> cases h
    | ok _ _ _ | panic _ | oof => rw [hP] at h; cases h
  · rintro ⟨hP, hlo⟩
    rw [hP]; exact if_pos hlo

theorem sSeparatedNext_pos_done_iff {s n s' ist' e} (hn : 0 < n) :
    sSeparatedNext P env ctx a sep lo hi lead trail s n = .done s' ist' e ↔
      ist' = .cnt n ∧ SepStop P env ctx a sep lo hi trail n s s' e := by
  rw [sSeparatedNext_pos hn]
  constructor
  · intro h
    cases hc : capReached hi n with
    | true => rw [hc] at h; cases h; exact ⟨rfl, .cap hc⟩
    | false =>
      rw [hc] at h; simp only [Bool.false_eq_true, if_false] at h
      cases hS : P env sep s ctx with
      | ok w ss es =>
        rw [hS] at h
        obtain ⟨hA, hlo, rfl, ⟨ht, rfl, rfl⟩ | ⟨ht, rfl, rfl⟩⟩ := sepItem_done_iff.1 h
        · exact ⟨rfl, .itemFailKeep hc hS hA hlo ht⟩
        · exact ⟨rfl, .itemFailBack hc hS hA hlo ht⟩
      | fail =>
        rw [hS] at h; simp only at h
        split at h
        · cases h
        · cases h; exact ⟨rfl, .sepFail hc hS (Nat.le_of_not_lt ‹_›)⟩
      | panic _ | oof => rw [hS] at h; cases h
  · rintro ⟨rfl, h⟩
    cases h with
    | cap hc => rw [hc]; rfl
    | sepFail hc hS hlo => rw [hc, hS]; exact if_neg (Nat.not_lt.2 hlo)
    | itemFailKeep hc hS hA hlo ht => rw [hc, hS]; exact sepItem_done_iff.2 ⟨hA, hlo, rfl, .inl ⟨ht, rfl, rfl⟩⟩
    | itemFailBack hc hS hA hlo ht => rw [hc, hS]; exact sepItem_done_iff.2 ⟨hA, hlo, rfl, .inr ⟨ht, rfl, rfl⟩⟩

theorem sSeparatedNext_pos_some_iff {s n v s2 ist1 e} (hn : 0 < n) :
    sSeparatedNext P env ctx a sep lo hi lead trail s n = .some v s2 ist1 e ↔
      capReached hi n = false ∧ ∃ w s1 e1 e2, P env sep s ctx = .ok w s1 e1 ∧
        P env a s1 ctx = .ok v s2 e2 ∧ ist1 = .cnt (n + 1) ∧ e = e1 ++ e2 := by
  rw [sSeparatedNext_pos hn]
  cases hc : capReached hi n with
  | true => exact ⟨nofun, nofun⟩
  | false =>
    simp only [Bool.false_eq_true, if_false, true_and]
    cases hS : P env sep s ctx with
    | ok w ss es =>
      simp only [sepItem_some_iff, SOut.ok.injEq]
      constructor
      · rintro ⟨em, hA, rfl, rfl⟩; exact ⟨w, ss, es, em, ⟨rfl, rfl, rfl⟩, hA, rfl, rfl⟩
      · rintro ⟨_, _, _, em, ⟨rfl, rfl, rfl⟩, hA, rfl, rfl⟩; exact ⟨em, hA, rfl, rfl⟩
    | fail => simp only [reduceCtorEq, false_and, exists_false, iff_false]; split <;> simp
    | panic _ | oof => simp

theorem sSeparatedNext_pos_fail_iff {s n} (hn : 0 < n) :
    sSeparatedNext P env ctx a sep lo hi lead trail s n = .fail ↔
      capReached hi n = false ∧ n < lo ∧
        (P env sep s ctx = .fail ∨ ∃ w s1 e1, P env sep s ctx = .ok w s1 e1 ∧ P env a s1 ctx = .fail) := by
  rw [sSeparatedNext_pos hn]
  cases hc : capReached hi n with
  | true => exact ⟨nofun, nofun⟩
  | false =>
    simp only [Bool.false_eq_true, if_false, true_and]
    cases hS : P env sep s ctx with
    | ok w ss es =>
      simp only [sepItem_fail_iff, reduceCtorEq, SOut.ok.injEq, false_or]
      constructor
      · rintro ⟨hA, hlo⟩; exact ⟨hlo, w, ss, es, ⟨rfl, rfl, rfl⟩, hA⟩
      · rintro ⟨hlo, _, _, _, ⟨rfl, rfl, rfl⟩, hA⟩; exact ⟨hA, hlo⟩
    | fail => simp only [reduceCtorEq, false_and, exists_false, or_false, and_true]; split <;> simp [*]
    | panic _ | oof => simp

theorem sSeparatedNext_zero_some_iff {s v s1 ist1 e} :
    sSeparatedNext P env ctx a sep lo hi lead trail s 0 = .some v s1 ist1 e ↔
      capReached hi 0 = false ∧ ∃ s0 e0 e1, Lead P env ctx sep lead s s0 e0 ∧
        P env a s0 ctx = .ok v s1 e1 ∧ ist1 = .cnt 1 ∧ e = e0 ++ e1 := by
  rw [sSeparatedNext_zero]
  cases hc : capReached hi 0 with
  | true => exact ⟨nofun, nofun⟩
  | false =>
    simp only [Bool.false_eq_true, if_false, true_and]
    rw [leadStep_eq_iff (by simp) (by simp)]
    simp only [sepItem_some_iff]
    constructor
    · rintro ⟨s0, e0, hl, e1, hA, rfl, rfl⟩; exact ⟨s0, e0, e1, hl, hA, rfl, rfl⟩
    · rintro ⟨s0, e0, e1, hl, hA, rfl, rfl⟩; exact ⟨s0, e0, hl, e1, hA, rfl, rfl⟩

theorem sSeparatedNext_zero_done_iff {s s' ist' e} :
    sSeparatedNext P env ctx a sep lo hi lead trail s 0 = .done s' ist' e ↔
      ist' = .cnt 0 ∧ SepRun P env ctx a sep lo hi lead trail s [] s' e := by
  rw [sSeparatedNext_zero]
  constructor
  · intro h
    cases hc : capReached hi 0 with
    | true => rw [hc] at h; cases h; exact ⟨rfl, .capZero hc⟩
    | false =>
      rw [hc] at h; simp only [Bool.false_eq_true, if_false] at h
      obtain ⟨s0, e0, hl, h⟩ := (leadStep_eq_iff (r := .done _ _ _) nofun nofun).1 h
      obtain ⟨hA, hlo, rfl, ⟨ht, rfl, rfl⟩ | ⟨ht, rfl, rfl⟩⟩ := sepItem_done_iff.1 h
      · exact ⟨rfl, .emptyKeep hc (Nat.le_zero.1 hlo) hl hA ht⟩
      · exact ⟨rfl, .emptyBack hc (Nat.le_zero.1 hlo) hl hA ht⟩
  · rintro ⟨rfl, h⟩
    cases h with
    | capZero hc => rw [hc]; rfl
    | emptyKeep hc hlo hl hA ht =>
      rw [hc]
      exact (leadStep_eq_iff (r := .done _ _ _) nofun nofun).2 ⟨_, _, hl, sepItem_done_iff.2 ⟨hA, Nat.le_of_eq hlo, rfl, .inl ⟨ht, rfl, rfl⟩⟩⟩
    | emptyBack hc hlo hl hA ht =>
      rw [hc]
      exact (leadStep_eq_iff (r := .done _ _ _) nofun nofun).2 ⟨_, _, hl, sepItem_done_iff.2 ⟨hA, Nat.le_of_eq hlo, rfl, .inr ⟨ht, rfl, rfl⟩⟩⟩

theorem sSeparatedNext_zero_fail_iff {s} :
    sSeparatedNext P env ctx a sep lo hi lead trail s 0 = .fail ↔
      capReached hi 0 = false ∧ 0 < lo ∧ ∃ s0 e0, Lead P env ctx sep lead s s0 e0 ∧
        P env a s0 ctx = .fail := by
  rw [sSeparatedNext_zero]
  cases hc : capReached hi 0 with
  | true => exact ⟨nofun, nofun⟩
  | false =>
    simp only [Bool.false_eq_true, if_false, true_and]
    rw [leadStep_eq_iff (by simp) (by simp)]
    simp only [sepItem_fail_iff]
    constructor
    · rintro ⟨s0, e0, hl, hA, hlo⟩; exact ⟨hlo, s0, e0, hl, hA⟩
    · rintro ⟨hlo, s0, e0, hl, hA⟩; exact ⟨s0, e0, hl, hA, hlo⟩

theorem separated_itemsPre_pos
    (hN : ∀ s k, N env (.separatedBy a sep lo hi lead trail) s ctx (.cnt k) =
      sSeparatedNext P env ctx a sep lo hi lead trail s k) {s k vs s' ist' e} (hk : 0 < k) :
    ItemsPre N env ctx (.separatedBy a sep lo hi lead trail) s (.cnt k) vs s' ist' e ↔
      SepTail P env ctx a sep s vs s' e ∧ ist' = .cnt (k + vs.length) ∧
      (∀ j < vs.length, capReached hi (k + j) = false) := by
  constructor
  · intro h
    generalize hist : ItSt.cnt k = ist at h
    induction h generalizing k with
    | nil => subst hist; exact ⟨.nil _, rfl, nofun⟩
    | some h _ ih =>
      subst hist
      rw [hN, sSeparatedNext_pos_some_iff hk] at h
      obtain ⟨hc, w, s1, e1, e2, hS, hA, rfl, rfl⟩ := h
      obtain ⟨htl, hist, hcap⟩ := ih (k := k + 1) (Nat.succ_pos k) rfl
      exact ⟨.cons hS hA htl, by rw [hist, List.length_cons, Nat.add_assoc, Nat.add_comm 1],
        (forall_lt_succ_add (p := (capReached hi · = false))).2 ⟨hc, hcap⟩⟩
  · rintro ⟨htl, rfl, hcap⟩
    induction htl generalizing k with
    | nil s => exact .nil _ _
    | cons hS hA _ ih =>
      obtain ⟨hc, hcap⟩ := (forall_lt_succ_add (p := (capReached hi · = false))).1 hcap
      rw [List.length_cons, Nat.add_comm _ 1, ← Nat.add_assoc]
      exact .some ((hN _ _).trans ((sSeparatedNext_pos_some_iff hk).2 ⟨hc, _, _, _, _, hS, hA, rfl, rfl⟩))
        (ih (Nat.succ_pos k) hcap)

/-- the stream of `separated_by` once at least one item has been taken (`k ≥ 1`): `(sep item)*`,
    stopping only at the cap, where the separator fails, or where the item after a separator
    fails -/
theorem separated_items_pos
    (hN : ∀ s k, N env (.separatedBy a sep lo hi lead trail) s ctx (.cnt k) =
      sSeparatedNext P env ctx a sep lo hi lead trail s k) {s k vs s' e} (hk : 0 < k) :
    Items N env ctx (.separatedBy a sep lo hi lead trail) s (.cnt k) vs s' e ↔
      ∃ sm em et, SepTail P env ctx a sep s vs sm em ∧
        SepStop P env ctx a sep lo hi trail (k + vs.length) sm s' et ∧ e = em ++ et ∧
        (∀ j < vs.length, capReached hi (k + j) = false) := by
  have hk' : 0 < k + vs.length := Nat.lt_of_lt_of_le hk (Nat.le_add_right _ _)
  rw [Items_iff_pre]
  constructor
  · rintro ⟨s1, ist1, e1, ist', e2, hp, hd, rfl⟩
    obtain ⟨htl, rfl, hcap⟩ := (separated_itemsPre_pos hN hk).1 hp
    rw [hN, sSeparatedNext_pos_done_iff hk'] at hd
    exact ⟨s1, e1, e2, htl, hd.2, rfl, hcap⟩
  · rintro ⟨sm, em, et, htl, hst, rfl, hcap⟩
    exact ⟨sm, _, em, .cnt (k + vs.length), et, (separated_itemsPre_pos hN hk).2 ⟨htl, rfl, hcap⟩,
      (hN _ _).trans ((sSeparatedNext_pos_done_iff hk').2 ⟨rfl, hst⟩), rfl⟩

/-- **`separated_by` from the start.** The stream is exactly a `SepRun`:
    `[sep, only if lead] item (sep item)* [sep, only if trail]`, or nothing. -/
theorem separated_items_zero
    (hN : ∀ s k, N env (.separatedBy a sep lo hi lead trail) s ctx (.cnt k) =
      sSeparatedNext P env ctx a sep lo hi lead trail s k) {s vs s' e} :
    Items N env ctx (.separatedBy a sep lo hi lead trail) s (.cnt 0) vs s' e ↔
      SepRun P env ctx a sep lo hi lead trail s vs s' e := by
  constructor
  · intro h
    cases h with
    | done h =>
      rw [hN, sSeparatedNext_zero_done_iff] at h
      exact h.2
    | some h ht =>
      rw [hN, sSeparatedNext_zero_some_iff] at h
      obtain ⟨hc, s0, e0, e1, hl, hA, rfl, rfl⟩ := h
      obtain ⟨sm, em, et, htl, hst, rfl, hcap⟩ := (separated_items_pos hN (Nat.succ_pos 0)).1 ht
      exact .items hc hl hA htl (by simpa using hst) (by simpa using hcap)
  · intro h
    cases h with
    | capZero hc =>
      refine .done (ist' := .cnt 0) ?_
      rw [hN, sSeparatedNext_zero_done_iff]; exact ⟨rfl, .capZero hc⟩
    | emptyKeep hc hlo hl hA ht =>
      refine .done (ist' := .cnt 0) ?_
      rw [hN, sSeparatedNext_zero_done_iff]; exact ⟨rfl, .emptyKeep hc hlo hl hA ht⟩
    | emptyBack hc hlo hl hA ht =>
      refine .done (ist' := .cnt 0) ?_
      rw [hN, sSeparatedNext_zero_done_iff]; exact ⟨rfl, .emptyBack hc hlo hl hA ht⟩
    | @items s0 e0 v s1 e1 vs sm em s' et hc hl hA htl hst hcap =>
      have h1 : N env (.separatedBy a sep lo hi lead trail) s ctx (.cnt 0) =
          .some v s1 (.cnt 1) (e0 ++ e1) := by
        rw [hN, sSeparatedNext_zero_some_iff]
        exact ⟨hc, s0, e0, e1, hl, hA, rfl, rfl⟩
      have h2 := (separated_items_pos hN (k := 1) (Nat.succ_pos 0)).2
        ⟨sm, em, et, htl, hst, rfl, hcap⟩
      exact .some h1 h2

theorem SepRun.le_hi {s vs s' e} (h : SepRun P env ctx a sep lo hi lead trail s vs s' e) :
    ∀ m, hi = some m → vs.length ≤ m := by
  intro m hm
  cases h with
  | capZero _ | emptyKeep | emptyBack => exact Nat.zero_le m
  | items hc _ _ _ _ hcap =>
    refine forall_lt_lt_iff.1 fun j hj => ?_
    cases j with
    | zero => exact capReached_false_iff.1 hc m hm
    | succ j => exact Nat.add_comm 1 j ▸ capReached_false_iff.1 (hcap j (Nat.lt_of_succ_lt_succ hj)) m hm

theorem SepRun.lo_le {s vs s' e} (h : SepRun P env ctx a sep lo hi lead trail s vs s' e)
    (hwf : ∀ m, hi = some m → lo ≤ m) : lo ≤ vs.length := by
  cases h with
  | capZero hc =>
    obtain ⟨m, hm, hle⟩ := capReached_true_iff.1 hc
    have := hwf m hm; omega
  | emptyKeep _ hlo | emptyBack _ hlo => omega
  | @items s0 e0 v s1 e1 vs sm em s' et _ _ _ _ hst _ =>
    simp only [List.length_cons]
    cases hst with
    | cap hc =>
      obtain ⟨m, hm, hle⟩ := capReached_true_iff.1 hc
      have := hwf m hm; omega
    | sepFail _ _ h | itemFailKeep _ _ _ h | itemFailBack _ _ _ h => omega

/-- no item: the result position is the start, or just after one separator when both
    `allow_leading` and `allow_trailing` hold (and the separator matched, the item after it not) -/
theorem SepRun.nil_pos {s s' e} (h : SepRun P env ctx a sep lo hi lead trail s [] s' e) :
    (s' = s ∧ e = []) ∨
    (lead = true ∧ trail = true ∧ ∃ w, P env sep s ctx = .ok w s' e ∧ P env a s' ctx = .fail) := by
  cases h with
  | capZero _ => exact .inl ⟨rfl, rfl⟩
  | emptyKeep _ _ hl hA ht =>
    cases hl with
    | took hlead hS => exact .inr ⟨hlead, ht, _, hS, hA⟩
    | skip _ => exact .inl ⟨rfl, rfl⟩
  | emptyBack => exact .inl ⟨rfl, rfl⟩

/-- without `allow_leading` and `allow_trailing`: exactly `item (sep item)*` is consumed, the result
    position is just after the last accepted item (or the start) -/
theorem SepRun.strict {s vs s' e} (h : SepRun P env ctx a sep lo hi false false s vs s' e) :
    (vs = [] ∧ s' = s ∧ e = []) ∨
    (∃ v vs' s1 e1 em, vs = v :: vs' ∧ P env a s ctx = .ok v s1 e1 ∧
      SepTail P env ctx a sep s1 vs' s' em ∧ e = e1 ++ em) := by
  cases h with
  | capZero _ => exact .inl ⟨rfl, rfl, rfl⟩
  | emptyKeep _ _ _ _ ht => cases ht
  | emptyBack => exact .inl ⟨rfl, rfl, rfl⟩
  | @items s0 e0 v s1 e1 vs sm em s' et _ hl hA htl hst _ =>
    right
    cases hl with
    | took hlead _ => cases hlead
    | skip _ =>
      cases hst with
      | cap _ => exact ⟨v, vs, s1, e1, em, rfl, hA, htl, by simp⟩
      | sepFail => exact ⟨v, vs, s1, e1, em, rfl, hA, htl, by simp⟩
      | itemFailKeep _ _ _ _ ht => cases ht
      | itemFailBack => exact ⟨v, vs, s1, e1, em, rfl, hA, htl, by simp⟩

/-- the separated tail is a function of its length: `(sep item)*` is possessive -/
theorem SepTail.length_det {s vs sm em vs2 sm2 em2} (h1 : SepTail P env ctx a sep s vs sm em)
    (h2 : SepTail P env ctx a sep s vs2 sm2 em2) (hl : vs.length = vs2.length) :
    vs = vs2 ∧ sm = sm2 ∧ em = em2 := by
  induction h1 generalizing vs2 sm2 em2 with
  | nil s =>
    cases h2 with
    | nil => exact ⟨rfl, rfl, rfl⟩
    | cons => simp at hl
  | cons hS hA _ ih =>
    cases h2 with
    | nil => simp at hl
    | cons hS' hA' ht =>
      rw [hS] at hS'; cases hS'
      rw [hA] at hA'; cases hA'
      obtain ⟨rfl, rfl, rfl⟩ := ih ht (by simpa using hl)
      exact ⟨rfl, rfl, rfl⟩

theorem separated_itemsFail_pos
    (hN : ∀ s k, N env (.separatedBy a sep lo hi lead trail) s ctx (.cnt k) =
      sSeparatedNext P env ctx a sep lo hi lead trail s k) {s k vs sf} (hk : 0 < k) :
    ItemsFail N env ctx (.separatedBy a sep lo hi lead trail) s (.cnt k) vs sf ↔
      ∃ e, SepTail P env ctx a sep s vs sf e ∧ k + vs.length < lo ∧
        (∀ j ≤ vs.length, capReached hi (k + j) = false) ∧
        (P env sep sf ctx = .fail ∨
          ∃ w s1 e1, P env sep sf ctx = .ok w s1 e1 ∧ P env a s1 ctx = .fail) := by
  have hk' : 0 < k + vs.length := Nat.lt_of_lt_of_le hk (Nat.le_add_right _ _)
  constructor
  · rintro ⟨ist1, e, hp, hf⟩
    obtain ⟨htl, rfl, hcap⟩ := (separated_itemsPre_pos hN hk).1 hp
    rw [hN, sSeparatedNext_pos_fail_iff hk'] at hf
    exact ⟨e, htl, hf.2.1, forall_le_iff.2 ⟨hcap, hf.1⟩, hf.2.2⟩
  · rintro ⟨e, htl, hlo, hcap, hx⟩
    obtain ⟨hcap, hc⟩ := forall_le_iff.1 hcap
    exact ⟨_, e, (separated_itemsPre_pos hN hk).2 ⟨htl, rfl, hcap⟩,
      (hN _ _).trans ((sSeparatedNext_pos_fail_iff hk').2 ⟨hc, hlo, hx⟩)⟩

/-- driving `next` of a fresh `separated_by` fails iff fewer than `at_least` items could be taken:
    the very first item fails (after the optional leading separator), or a later separator / the
    item after it fails — in each case below `at_least` and below the cap -/
theorem separated_itemsFail_zero
    (hN : ∀ s k, N env (.separatedBy a sep lo hi lead trail) s ctx (.cnt k) =
      sSeparatedNext P env ctx a sep lo hi lead trail s k) {s vs sf} :
    ItemsFail N env ctx (.separatedBy a sep lo hi lead trail) s (.cnt 0) vs sf ↔
      capReached hi 0 = false ∧
      ((vs = [] ∧ sf = s ∧ 0 < lo ∧ ∃ s0 e0, Lead P env ctx sep lead s s0 e0 ∧ P env a s0 ctx = .fail) ∨
       (∃ v vs' s0 e0 s1 e1 e, vs = v :: vs' ∧ Lead P env ctx sep lead s s0 e0 ∧
          P env a s0 ctx = .ok v s1 e1 ∧ SepTail P env ctx a sep s1 vs' sf e ∧ vs.length < lo ∧
          (∀ j ≤ vs'.length, capReached hi (1 + j) = false) ∧
          (P env sep sf ctx = .fail ∨
            ∃ w s2 e2, P env sep sf ctx = .ok w s2 e2 ∧ P env a s2 ctx = .fail))) := by
  cases vs with
  | nil =>
    rw [ItemsFail_nil, hN, sSeparatedNext_zero_fail_iff]
    constructor
    · rintro ⟨rfl, hc, hlo, hx⟩; exact ⟨hc, .inl ⟨rfl, rfl, hlo, hx⟩⟩
    · rintro ⟨hc, ⟨_, rfl, hlo, hx⟩ | ⟨v, vs', s0, e0, s1, e1, e, h, _⟩⟩
      · exact ⟨rfl, hc, hlo, hx⟩
      · cases h
  | cons v vs =>
    rw [ItemsFail_cons]
    constructor
    · rintro ⟨s1, ist1, e01, hn, hf⟩
      rw [hN, sSeparatedNext_zero_some_iff] at hn
      obtain ⟨hc, s0, e0, e1, hl, hA, rfl, rfl⟩ := hn
      obtain ⟨e, htl, hlo, hcap, hx⟩ := (separated_itemsFail_pos hN (Nat.succ_pos 0)).1 hf
      exact ⟨hc, .inr ⟨v, vs, s0, e0, s1, e1, e, rfl, hl, hA, htl, by simp; omega, by simpa using hcap, hx⟩⟩
    · rintro ⟨hc, ⟨h, _⟩ | ⟨v', vs', s0, e0, s1, e1, e, h, hl, hA, htl, hlo, hcap, hx⟩⟩
      · cases h
      · cases h
        refine ⟨s1, .cnt 1, e0 ++ e1, ?_, (separated_itemsFail_pos hN (k := 1) (Nat.succ_pos 0)).2
          ⟨e, htl, by simp at hlo; omega, hcap, hx⟩⟩
        rw [hN, sSeparatedNext_zero_some_iff]
        exact ⟨hc, s0, e0, e1, hl, hA, rfl, rfl⟩

end separated

section topSep
variable {env : Env} {ctx : Val}

theorem pegNext'_separatedBy (n : Nat) {a sep lo hi lead trail} (s : SS) (k : Nat) :
    pegNext' (n + 1) env (.separatedBy a sep lo hi lead trail) s ctx (.cnt k) =
      sSeparatedNext (peg n) env ctx a sep lo hi lead trail s k := by
  rw [pegNext'_succ]; rfl

theorem pegMk'_separatedBy (n : Nat) {a sep lo hi lead trail} (s : SS) :
    pegMk' (n + 1) env (.separatedBy a sep lo hi lead trail) s ctx = .ok (.cnt 0) s [] := by
  rw [pegMk'_succ]; rfl

/-- `separated_by().collect()` -/
theorem peg_collect_separatedBy {n k a sep lo hi lead trail s v s' em}
    (h : peg (n + 2) env (.collect k (.separatedBy a sep lo hi lead trail)) s ctx = .ok v s' em) :
    ∃ vs, SepRun (peg n) env ctx a sep lo hi lead trail s vs s' em ∧ v = sCollectOut k vs := by
  obtain ⟨ist, s1, e1, vs, e2, hK, hI, hv, rfl⟩ := peg_collect_items h
  rw [pegMk'_separatedBy] at hK
  cases hK
  exact ⟨vs, by simpa using (separated_items_zero (pegNext'_separatedBy n)).1 hI, hv⟩

/-- `a0.foldl(separated_by(), f)` -/
theorem peg_foldl_separatedBy {n f a0 a sep lo hi lead trail s v s' em}
    (h : peg (n + 2) env (.foldl f a0 (.separatedBy a sep lo hi lead trail)) s ctx = .ok v s' em) :
    ∃ v0 s0 e0 vs e, peg (n + 1) env a0 s ctx = .ok v0 s0 e0 ∧
      SepRun (peg n) env ctx a sep lo hi lead trail s0 vs s' e ∧ v = vs.foldl f.evalL v0 ∧
      em = e0 ++ e := by
  obtain ⟨v0, s0, e0, ist, s1, e1, vs, e2, hA, hK, hI, hv, rfl⟩ := peg_foldl_items h
  rw [pegMk'_separatedBy] at hK
  cases hK
  exact ⟨v0, s0, e0, vs, e2, hA, (separated_items_zero (pegNext'_separatedBy n)).1 hI, hv, by simp⟩

/-- `separated_by().foldr(b, f)` -/
theorem peg_foldr_separatedBy {n f a sep lo hi lead trail b s v s' em}
    (h : peg (n + 2) env (.foldr f (.separatedBy a sep lo hi lead trail) b) s ctx = .ok v s' em) :
    ∃ vs s2 e2 vb e3, SepRun (peg n) env ctx a sep lo hi lead trail s vs s2 e2 ∧
      peg (n + 1) env b s2 ctx = .ok vb s' e3 ∧ v = List.foldr f.evalR vb vs ∧ em = e2 ++ e3 := by
  obtain ⟨ist, s1, e1, vs, s2, e2, vb, e3, hK, hI, hB, hv, rfl⟩ := peg_foldr_items h
  rw [pegMk'_separatedBy] at hK
  cases hK
  exact ⟨vs, s2, e2, vb, e3, (separated_items_zero (pegNext'_separatedBy n)).1 hI, hB, hv, by simp⟩

/-- `separated_by()` as a plain parser -/
theorem peg_iterP_separatedBy {n a sep lo hi lead trail s v s' em}
    (h : peg (n + 2) env (.iterP (.separatedBy a sep lo hi lead trail)) s ctx = .ok v s' em) :
    ∃ vs, SepRun (peg n) env ctx a sep lo hi lead trail s vs s' em ∧ v = .unit := by
  rw [peg_succ, pegStep_iterP_separatedBy, pegMk'_separatedBy] at h
  simp only at h
  obtain ⟨vs, e, hI, hv, he⟩ := sIterLoop_sound _ _ _ _ _ _ _ h
  refine ⟨vs, ?_, hv⟩
  have := (separated_items_zero (pegNext'_separatedBy n)).1 hI
  simpa [he] using this

/-- `separated_by().enumerate().collect()` -/
theorem peg_collect_enumerate_separatedBy {n k a sep lo hi lead trail s v s' em}
    (h : peg (n + 3) env (.collect k (.enumerate (.separatedBy a sep lo hi lead trail))) s ctx = .ok v s' em) :
    ∃ vs, SepRun (peg n) env ctx a sep lo hi lead trail s vs s' em ∧ v = sCollectOut k (enumVals 0 vs) := by
  obtain ⟨ist, s1, e1, vs, e2, hK, hI, hv, rfl⟩ := peg_collect_items h
  have hK' : pegMk' (n + 2) env (.enumerate (.separatedBy a sep lo hi lead trail)) s ctx =
      .ok (.enum 0 (.cnt 0)) s [] := by
    rw [pegMk'_succ]; simp only [pegMk, pegMk'_separatedBy]
  rw [hK'] at hK
  cases hK
  obtain ⟨ws, hI', rfl⟩ := (enumerate_items_iff (pegNext'_enumerate (n + 1))).1 hI
  exact ⟨ws, by simpa using (separated_items_zero (pegNext'_separatedBy n)).1 hI', hv⟩

end topSep

/-! ## axioms -/

#print axioms Items_iff_pre
#print axioms Items.det
#print axioms sCollectLoop_sound
#print axioms sCollectLoop_complete
#print axioms sFoldlLoop_sound
#print axioms sFoldlLoop_sound_at
#print axioms sFoldlLoop_complete
#print axioms sFoldrCollect_sound
#print axioms sFoldrCollect_ne_ok
#print axioms foldr_final
#print axioms sIterLoop_sound
#print axioms sIterLoop_complete
#print axioms sCollectExactlyLoop_ok
#print axioms sCollectExactlyLoop_fail
#print axioms repeated_items_iff
#print axioms repeated_items_iff_wf
#print axioms repeated_itemsFail_iff
#print axioms repeated_itemsPre_iff
#print axioms repeated_items_zero
#print axioms RepRun.lo_le
#print axioms sRepeatFast_sound
#print axioms enumerate_items_iff
#print axioms peg_collect_items
#print axioms peg_collectExactly_items
#print axioms peg_foldl_items
#print axioms peg_foldr_items
#print axioms peg_collect_repeated
#print axioms peg_collect_vec_repeated
#print axioms peg_collect_count_repeated
#print axioms peg_foldl_repeated
#print axioms peg_foldr_repeated
#print axioms peg_iterP_repeated_slow
#print axioms peg_iterP_repeated_fast
#print axioms peg_collectExactly_repeated
#print axioms peg_collect_enumerate_repeated
#print axioms separated_items_pos
#print axioms separated_items_zero
#print axioms SepRun.le_hi
#print axioms SepRun.lo_le
#print axioms SepRun.nil_pos
#print axioms SepRun.strict
#print axioms SepTail.length_det
#print axioms separated_itemsFail_pos
#print axioms separated_itemsFail_zero
#print axioms peg_collect_separatedBy
#print axioms peg_foldl_separatedBy
#print axioms peg_foldr_separatedBy
#print axioms peg_iterP_separatedBy
#print axioms peg_collect_enumerate_separatedBy

end Chumsky
