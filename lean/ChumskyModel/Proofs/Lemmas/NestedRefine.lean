/-
  Proofs/Lemmas/NestedRefine.lean — the two-level machine (`runN`) refines the two-level reading (`pegN`), for every
  two-level grammar, every token tree, every mode, state and fuel. Leaves use the master refinement (`run_refines`).
-/
import ChumskyModel.Model.Nested
import ChumskyModel.Proofs.Lemmas.Master
namespace Chumsky

theorem emsRel_rehome {ls : List Loc} {es : List Emis} (at_ : Nat) (h : EmsRel ls es) :
    EmsRel (rehome at_ ls) (rehomeEm at_ es) := by
  induction ls generalizing es with
  | nil => cases es with
    | nil => trivial
    | cons _ _ => exact h.elim
  | cons l ls ih => cases es with
    | nil => exact h.elim
    | cons e es =>
      obtain ⟨h1, h2⟩ := h
      cases e with
      | user u => cases (h1 : l = u); exact ⟨rfl, ih h2⟩
      | recovered p => exact ⟨rfl, ih h2⟩

@[simp] theorem nestedMerge_pos (env : Env) (st1 si : St) : (nestedMerge env st1 si).pos = st1.pos := by
  unfold nestedMerge; split <;> simp
@[simp] theorem nestedMerge_insp (env : Env) (st1 si : St) : (nestedMerge env st1 si).insp = si.insp := by
  unfold nestedMerge; split <;> simp
@[simp] theorem nestedMerge_errs (env : Env) (st1 si : St) :
    (nestedMerge env st1 si).errs = st1.errs ++ rehome st1.pos si.errs := by
  unfold nestedMerge; split <;> simp
@[simp] theorem nestedMerge_ctx (env : Env) (st1 si : St) : (nestedMerge env st1 si).ctx = st1.ctx := by
  unfold nestedMerge; split <;> simp
theorem nestedMerge_alt_isSome (env : Env) (st1 si : St) (h : si.alt.isSome = true) :
    (nestedMerge env st1 si).alt.isSome = true := by
  unfold nestedMerge
  cases ha : si.alt with
  | none => simp [ha] at h
  | some a => simp

theorem NEnv.inner_memoOn (ne : NEnv) (kids : List Nat) : (ne.inner kids).base.memoOn = ne.base.memoOn := rfl

/-- case analysis on a refinement followed on both sides by a `match` that passes `panic` and `oof` on: the successes
    are related, or the machine failed where the reading fails -/
theorem Refines.elim_match {m m' : Mode} {base base' : List Loc} {ctx ctx' : Val} {o : Out} {so : SOut}
    {k : Val → St → Out} {sk : Val → SS → List Emis → SOut} {kf : St → Out} {skf : SOut} :
    Refines m' base' ctx' o so →
    (∀ v st' v' s' em, OkRel m' base' ctx' v st' v' s' em → Refines m base ctx (k v st') (sk v' s' em)) →
    (∀ st', FailRel base' ctx' st' → Refines m base ctx (kf st') skf) →
    Refines m base ctx
      (match o with | .ok v st' => k v st' | .fail st' => kf st' | .panic w => .panic w | .oof => .oof)
      (match so with | .ok v s' em => sk v s' em | .fail => skf | .panic w => .panic w | .oof => .oof) := by
  intro h hok hfail
  cases o <;> cases so <;> try exact False.elim h
  · exact hok _ _ _ _ _ h
  · exact hfail _ h
  · exact h
  · trivial

/-- `NestedIn::go` spells the sequencing after `b` out as a `match` -/
theorem Out.andThen_eq_match (o : Out) (k : Val → St → Out) :
    (match o with | .fail st1 => .fail st1 | .panic w => .panic w | .oof => .oof | .ok v st1 => k v st1) = o.andThen k := by
  cases o <;> rfl

/-- `a.then_ignore(end())` on the inner input: `a` refines its reading, and so does `end()` from wherever `a` stops -/
theorem Refines.innerThenEnd {m : Mode} {base : List Loc} {ctx : Val} {ra : Out} {pa : SOut} {rend : St → Out}
    {pend : SS → SOut} (ha : Refines m base ctx ra pa)
    (hend : ∀ si, si.ctx = ctx → Refines .check si.errs ctx (rend si) (pend si.ss)) :
    Refines m base ctx (innerThenEndM ra rend) (innerThenEndS pa pend) := by
  refine ha.bind0 fun va si1 va' e2 h2 => ?_
  exact Refines.bind h2.emitted (hend si1 h2.ctx) fun _ si2 _ e3 h3 => h3.mono h2.val

/-- the tail of `NestedIn::go` after a nested parse that succeeded. `b` has left the outer run in `st1`; the inner run was
    measured from an empty error list: its errors are appended re-homed at the outer cursor, which stays just after `b` -/
theorem OkRel.nestedMerge {m mb : Mode} {base : List Loc} {ctx : Val} {vb st1 vb' s1 e1 va si va' si' e2} (env : Env)
    (hb : OkRel mb base ctx vb st1 vb' s1 e1) (hi : OkRel m [] ctx va si va' si' e2) :
    OkRel m base ctx va (nestedMerge env st1 si) va' ⟨s1.pos, si'.insp⟩ (e1 ++ rehomeEm s1.pos e2) := by
  obtain ⟨new1, he1, hr1⟩ := hb.errs
  obtain ⟨new2, he2, hr2⟩ := hi.errs
  have hpos : st1.pos = s1.pos := congrArg SS.pos hb.ss
  refine ⟨hi.val, ?_, ⟨new1 ++ rehome st1.pos new2, ?_, ?_⟩, (nestedMerge_ctx ..).trans hb.ctx⟩
  · show SS.mk _ _ = _
    rw [nestedMerge_pos, nestedMerge_insp, hpos, ← hi.ss]; rfl
  · rw [nestedMerge_errs, he1, he2, List.nil_append, List.append_assoc]
  · rw [← hpos]; exact hr1.append (emsRel_rehome st1.pos hr2)

/-- … and after one that failed: the outer list is only extended, the failure is recorded -/
theorem FailRel.nestedMerge {mb : Mode} {base : List Loc} {ctx : Val} {vb st1 vb' s1 e1 si} (env : Env)
    (hb : OkRel mb base ctx vb st1 vb' s1 e1) (hi : FailRel [] ctx si) :
    FailRel base ctx (nestedMerge env st1 si) := by
  obtain ⟨new1, he1, _⟩ := hb.errs
  exact ⟨by rw [nestedMerge_errs, he1, List.append_assoc]; exact List.prefix_append _ _,
    (nestedMerge_ctx ..).trans hb.ctx, nestedMerge_alt_isSome _ _ _ hi.alt⟩

def RefinesN (n : Nat) : Prop :=
  ∀ (ne : NEnv) (m : Mode) (g : NGram) (st : St), ne.base.memoOn = false →
    Refines m st.errs st.ctx (runN n ne m g st) (pegN n ne g st.ss st.ctx)

theorem RefinesN.sub {n : Nat} (h : RefinesN n) {ne : NEnv} (hm : ne.base.memoOn = false) (m : Mode) (g : NGram) (st : St)
    {ctx : Val} (hc : st.ctx = ctx) : Refines m st.errs ctx (runN n ne m g st) (pegN n ne g st.ss ctx) :=
  hc ▸ h ne m g st hm

theorem runN_refines_all : ∀ n, RefinesN n := by
  intro n
  induction n with
  | zero => intro ne m g st _; trivial
  | succ n ih =>
    intro ne m g st hm
    cases g with
    | lift g => exact run_refines n ne.base m g st hm
    | then_ a b =>
      refine (ih ne m a st hm).bind0 fun va st1 va' e1 h1 => ?_
      exact Refines.bind h1.emitted (ih.sub hm m b st1 h1.ctx) fun vb st2 vb' e2 h2 => h2.mono (bind_pair h1.val h2.val)
    | or_ a b =>
      refine (ih ne m a st hm).elim_match ?_ fun st' ha => ?_
      · exact fun _ _ _ _ _ h => h
      -- `a` failed: rewind to the checkpoint, try `b` from the same abstract position
      have hs : SameAs (st'.rewind st.save) st := SameAs.of_rewind ha
      have hb := ih ne m b (st'.rewind st.save) hm
      rw [hs.errs, hs.ctx, hs.ss] at hb
      -- the reading has no `match` here: only a failure of `b` changes (it is rewound once more)
      revert hb
      cases runN n ne m b (st'.rewind st.save) with
      | fail st'' =>
        cases pegN n ne b st.ss st.ctx <;> intro hb <;> try exact False.elim hb
        exact hb.rewind
      | _ => exact id
    | orNot a =>
      refine (ih ne m a st hm).elim_match (fun _ _ _ _ _ ha => ?_) fun st' ha => ?_
      · exact ha.mono (by rw [ha.val]; cases m <;> rfl)
      · have hs : SameAs (st'.rewind st.save) st := SameAs.of_rewind ha
        show OkRel _ _ _ _ _ _ _ _
        rw [← hs.ss]
        exact ok_refl.mpr ⟨hs.errs, hs.ctx⟩
    | mapWithSpan a =>
      refine (ih ne m a st hm).bind0 fun v st1 v' e1 h1 => h1.mono ?_
      rw [h1.val]; cases m <;> rfl
    | nestedIn a b =>
      show Refines m st.errs st.ctx
        (match run n ne.base .emit b st with | .fail st1 => _ | .panic w => _ | .oof => _ | .ok vb st1 => _)
        ((peg n ne.base b st.ss st.ctx).andThen _)
      rw [Out.andThen_eq_match]
      refine (run_refines n ne.base .emit b st hm).bind0 fun vb st1 vb' e1 hb => ?_
      obtain rfl : vb = vb' := hb.val
      show Refines m st.errs st.ctx (match ne.kidsOf vb with | none => _ | some kids => _)
        (match ne.kidsOf vb with | none => _ | some kids => _)
      cases ne.kidsOf vb with
      | none => exact rfl
      | some kids =>
        -- the inner run, measured from an empty error list, followed by `end()` on the inner input
        have hthen := Refines.innerThenEnd
          (ih (ne.inner kids) m a
            { pos := 0, errs := [], alt := none, insp := st1.insp, ctx := st1.ctx, memo := [], log := [] } hm)
          (rend := fun si1 => run n (ne.inner kids).base .check .end_ si1)
          (pend := fun si1 => peg n (ne.inner kids).base .end_ si1 st1.ctx)
          (fun si hc => by have := run_refines n (ne.inner kids).base .check .end_ si hm; rwa [hc] at this)
        rw [hb.ctx] at hthen ⊢
        refine hthen.elim_match ?_ ?_
        · exact fun _ _ _ _ _ hi => hb.nestedMerge ne.base hi
        · exact fun _ hi => hi.nestedMerge ne.base hb

theorem runN_refines (n : Nat) (ne : NEnv) (m : Mode) (g : NGram) (st : St) (hm : ne.base.memoOn = false) :
    Refines m st.errs st.ctx (runN n ne m g st) (pegN n ne g st.ss st.ctx) :=
  runN_refines_all n ne m g st hm

end Chumsky
