/-
  Proofs/Lemmas/SpanWf.lean — arithmetic of `Env.mkSpan` / `Env.off` for the three span disciplines
  (`&[T]`-like: token indices; `&str`: byte offsets; `Input::map` / `IterInput`: the tokens' own spans).
  Pure lemmas (no grammar): used by C07 and by `ErrWf`.
-/
import ChumskyModel.Proofs.Lemmas.StepEqns

namespace Chumsky

theorem ite_between {P : Prop} [Decidable P] {lo hi a b : Nat} (ha : lo ≤ a ∧ a ≤ hi) (hb : lo ≤ b ∧ b ≤ hi) :
    lo ≤ (if P then a else b) ∧ (if P then a else b) ≤ hi := by
  split <;> assumption

theorem utf8w_bounds (c : Nat) : 1 ≤ utf8w c ∧ utf8w c ≤ 4 :=
  ite_between (by decide) (ite_between (by decide) (ite_between (by decide) (by decide)))

theorem utf8w_ge_one (c : Nat) : 1 ≤ utf8w c := (utf8w_bounds c).1
theorem utf8w_le4 (c : Nat) : utf8w c ≤ 4 := (utf8w_bounds c).2

/-- the offset of token index `i` is the UTF-8 length of the first `i` characters: always a character boundary -/
theorem strOff_eq_sum (toks : List Nat) (i : Nat) : strOff toks i = ((toks.take i).map utf8w).sum := by
  induction toks generalizing i with
  | nil => cases i <;> simp [strOff]
  | cons c cs ih => cases i <;> simp [strOff, ih]

theorem strOff_succ (toks : List Nat) (i : Nat) (c : Nat) (h : toks[i]? = some c) :
    strOff toks (i + 1) = strOff toks i + utf8w c := by
  induction toks generalizing i with
  | nil => simp at h
  | cons d ds ih =>
    cases i with
    | zero => simp at h; subst h; simp [strOff]
    | succ k => simp at h; simp only [strOff]; rw [ih k h]; omega

theorem strOff_le_of_le (toks : List Nat) {i j : Nat} (h : i ≤ j) : strOff toks i ≤ strOff toks j := by
  induction toks generalizing i j with
  | nil => cases i <;> cases j <;> simp [strOff]
  | cons c cs ih =>
    cases i with
    | zero => simp [strOff]
    | succ i' =>
      cases j with
      | zero => omega
      | succ j' => simp only [strOff]; have := ih (i := i') (j := j') (by omega); omega

theorem strOff_lt_of_lt (toks : List Nat) {i j : Nat} (h : i < j) (hj : j ≤ toks.length) : strOff toks i < strOff toks j := by
  induction toks generalizing i j with
  | nil => simp at hj; omega
  | cons c cs ih =>
    cases j with
    | zero => omega
    | succ j' =>
      cases i with
      | zero => simp only [strOff]; have := utf8w_ge_one c; omega
      | succ i' =>
        simp only [strOff]
        have := ih (i := i') (j := j') (by omega) (by simpa using hj); omega

theorem strOff_ge_length : ∀ (l : List Nat) (i : Nat), l.length ≤ i → strOff l i = strOff l l.length := by
  intro l
  induction l with
  | nil => intro i _; cases i <;> rfl
  | cons c cs ih =>
    intro i hi
    cases i with
    | zero => simp at hi
    | succ i =>
      simp only [strOff, List.length_cons]
      rw [ih i (by simpa using hi)]

/-- the byte length of the whole text -/
def strLen (toks : List Nat) : Nat := strOff toks toks.length

theorem strOff_le_len (toks : List Nat) {j : Nat} (hj : j ≤ toks.length) : strOff toks j ≤ strLen toks :=
  strOff_le_of_le toks hj

/-- token spans are non-inverted and in input order; the end-of-input span lies after the last token -/
structure SpansWf (tsp : List (Nat × Nat)) (eoi : Nat × Nat) : Prop where
  each : ∀ k (h : k < tsp.length), tsp[k].1 ≤ tsp[k].2
  next : ∀ k (h : k + 1 < tsp.length), tsp[k].2 ≤ tsp[k + 1].1
  last : ∀ k (h : k < tsp.length), tsp[k].2 ≤ eoi.1
  eoiWf : eoi.1 ≤ eoi.2

theorem SpansWf.end_le_start {tsp eoi} (w : SpansWf tsp eoi) {k l : Nat} (hkl : k < l) (hl : l < tsp.length) :
    (tsp[k]'(by omega)).2 ≤ tsp[l].1 := by
  induction l with
  | zero => exact absurd hkl (Nat.not_lt_zero _)
  | succ m ih =>
    by_cases hk : k = m
    · subst hk; exact w.next k hl
    · exact Nat.le_trans (ih (by omega) (by omega)) (Nat.le_trans (w.each m (by omega)) (w.next m hl))

theorem SpansWf.start_mono {tsp eoi} (w : SpansWf tsp eoi) {k l : Nat} (hkl : k ≤ l) (hl : l < tsp.length) :
    (tsp[k]'(by omega)).1 ≤ tsp[l].1 := by
  rcases Nat.eq_or_lt_of_le hkl with rfl | h
  · exact Nat.le_refl _
  · exact Nat.le_trans (w.each k (by omega)) (w.end_le_start h hl)

theorem SpansWf.end_mono {tsp eoi} (w : SpansWf tsp eoi) {k l : Nat} (hkl : k ≤ l) (hl : l < tsp.length) :
    (tsp[k]'(by omega)).2 ≤ tsp[l].2 := by
  rcases Nat.eq_or_lt_of_le hkl with rfl | h
  · exact Nat.le_refl _
  · exact Nat.le_trans (w.end_le_start h hl) (w.each l hl)

/-- the environment of a parse is well formed: a mapped input has one span per token, in order -/
def Env.Wf (env : Env) : Prop :=
  env.kind = .mapped → env.tspans.length = env.toks.length ∧ SpansWf env.tspans env.eoi

theorem mkSpan_slice (env : Env) (h : env.kind = .slice) (i j : Nat) : env.mkSpan i j = (i, j) := by
  simp [Env.mkSpan, h]

theorem mkSpan_str (env : Env) (h : env.kind = .str) (i j : Nat) :
    env.mkSpan i j = (strOff env.toks i, strOff env.toks j) := by
  simp [Env.mkSpan, h]

/-- mapped, non-empty match: from the start of the first consumed token to the end of the last -/
theorem mkSpan_mapped_nonempty (env : Env) (h : env.kind = .mapped) {i j : Nat} (hij : i < j) (hj : j ≤ env.tspans.length) :
    env.mkSpan i j = ((env.tspans[i]'(by omega)).1, (env.tspans[j - 1]'(by omega)).2) := by
  have hi : i < env.tspans.length := by omega
  have hne : (i == j) = false := by simp; omega
  have hj0 : j > 0 := by omega
  simp [Env.mkSpan, h, hne, hi, hj0, List.getD_eq_getElem?_getD, List.getElem?_eq_getElem (show j - 1 < env.tspans.length by omega)]

/-- mapped, empty match at `i > 0`: the empty span just after the previous token -/
theorem mkSpan_mapped_empty_pos (env : Env) (h : env.kind = .mapped) {i : Nat} (hi : 0 < i) (hl : i ≤ env.tspans.length) :
    env.mkSpan i i = ((env.tspans[i - 1]'(by omega)).2, (env.tspans[i - 1]'(by omega)).2) := by
  simp [Env.mkSpan, h, hi, List.getD_eq_getElem?_getD, List.getElem?_eq_getElem (show i - 1 < env.tspans.length by omega)]

/-- mapped, empty match at the very start: the empty span just before the first token (or at the end-of-input span) -/
theorem mkSpan_mapped_empty_zero (env : Env) (h : env.kind = .mapped) :
    env.mkSpan 0 0 = match env.tspans[0]? with
                     | some s => (s.1, s.1)
                     | none => (env.eoi.2, env.eoi.2) := by
  simp only [Env.mkSpan, h, beq_self_eq_true, if_true, Nat.lt_irrefl, gt_iff_lt, if_false]
  cases env.tspans[0]? <;> rfl

/-- every token span ends before the end of the end-of-input span -/
theorem SpansWf.end_le_eoi {tsp eoi} (w : SpansWf tsp eoi) (k : Nat) (h : k < tsp.length) : tsp[k].2 ≤ eoi.2 :=
  Nat.le_trans (w.last k h) w.eoiWf

end Chumsky
