/-
  C09 — `atom.pratt(ops)`: the machine (`prattGo`, checkpoints / rewinds / declaration order) refines the
  textbook binding-power recursion (`sPratt`), plus the "textbook" facts about the reading itself
  (powers, shape, maximality, token order).
-/
import ChumskyModel.Model.Pratt
import ChumskyModel.Proofs.Lemmas.Master
import ChumskyModel.Proofs.Lemmas.Top
import ChumskyModel.Proofs.Lemmas.PrattTable
namespace Chumsky

section Refinement

variable {R : Mode → G → St → Out} {P : G → SS → SOut} {ctx : Val} {env : Env} {m : Mode}
variable {rec : Nat → St → Out} {srec : Nat → SS → SOut}

/-- the hypothesis on the atom / operator parsers (instantiated by `run_refines`) -/
def PRefines (R : Mode → G → St → Out) (P : G → SS → SOut) (ctx : Val) : Prop :=
  ∀ m g st, st.ctx = ctx → Refines m st.errs ctx (R m g st) (P g st.ss)

/-- the hypothesis on the recursive calls (the induction hypothesis on the pratt fuel) -/
def RecRefines (m : Mode) (rec : Nat → St → Out) (srec : Nat → SS → SOut) (ctx : Val) : Prop :=
  ∀ p st, st.ctx = ctx → Refines m st.errs ctx (rec p st) (srec p st.ss)

theorem PRefines.same (hRP : PRefines R P ctx) (m : Mode) (g : G) {st st0 : St} (h : SameAs st st0)
    (hc : st0.ctx = ctx) : Refines m st0.errs ctx (R m g st) (P g st0.ss) := by
  have := hRP m g st (h.ctx.trans hc)
  rwa [h.errs, h.ss] at this

/-- one pass over the operator table from the checkpointed state `st0`: no operator applied and the state is `st0` up
    to rewinds, or related results -/
abbrev TableRel (m : Mode) (ctx : Val) (st0 : St) : Sum St Out → Option SOut → Prop :=
  PassRel (SameAs · st0) (Refines m st0.errs ctx)

/-- an attempt: a failure is rewound to the checkpoint, in the reading the next operator is tried from the same place -/
theorem Refines.orRewind {st0 : St} {o : Out} {so : SOut} (h : Refines m st0.errs st0.ctx o so) :
    TableRel m st0.ctx st0 (o.orRewind st0.save) so.attempt :=
  h.cases (fun _ _ _ _ h => h) (fun _ hf => SameAs.of_rewind hf) (fun _ => rfl) trivial

theorem prattOperator_refines (hRP : PRefines R P ctx) {st st0 : St} (hs : SameAs st st0) (hc : st0.ctx = ctx)
    (start : Nat) {f f' : Val → Nat × Nat → Val} (hf : m = .emit → f = f') (op : G) :
    Refines m st0.errs ctx (prattOperator R env m start f op st) (sPrattOperator P env start f' op st0.ss) :=
  (hRP.same m op hs hc).bind0 fun opv st1 opv' e1 h1 =>
    h1.mono (bind_match fun he => by subst he; rw [hf rfl, h1.val]; rfl)

theorem prattOperand_refines (hRP : PRefines R P ctx) (hrec : RecRefines m rec srec ctx) {st st0 : St}
    (hs : SameAs st st0) (hc : st0.ctx = ctx) (start : Nat) {f f' : Val → Val → Nat × Nat → Val}
    (hf : m = .emit → f = f') (op : G) (p : Nat) :
    Refines m st0.errs ctx (prattOperand R rec env m start f op p st) (sPrattOperand P srec env start f' op p st0.ss) :=
  (hRP.same m op hs hc).bind0 fun opv st1 opv' e1 h1 =>
    Refines.bind h1.emitted (hrec p st1 h1.ctx) fun rhs st2 rhs' e2 h2 =>
      h2.mono (bind_match fun he => by subst he; rw [hf rfl, h1.val, h2.val]; rfl)

/-- the checkpoint `pre_expr` was taken at `st0` -/
theorem prattPrefix_refines (hRP : PRefines R P ctx) (hrec : RecRefines m rec srec ctx) {st0 : St}
    (hc0 : st0.ctx = ctx) (ops : List PrattOp) {st : St} (hs : SameAs st st0) :
    TableRel m ctx st0 (prattPrefix R rec env m st0.save ops st) (sPrattPrefix P srec env st0.ss ops) := by
  subst hc0
  rw [prattPrefix_eq, sPrattPrefix_eq]
  refine tablePass_rel (fun o _ st hs => ?_) hs
  cases o with
  | «prefix» bp op => exact (prattOperand_refines hRP hrec hs rfl _ (fun _ => rfl) op _).orRewind
  | _ => exact hs

/-- `pre_expr` was taken at `st0`, `pre_op` at `stL` (the state at the top of the loop iteration) -/
theorem prattPostfix_refines (hRP : PRefines R P ctx) (st0 : St) (minP : Nat) {stL : St} (hcL : stL.ctx = ctx)
    {lhs lhs' : Val} (hl : lhs = m.bind lhs') (ops : List PrattOp) {st : St} (hs : SameAs st stL) :
    TableRel m ctx stL (prattPostfix R env m st0.save stL.save minP lhs ops st)
      (sPrattPostfix P env st0.ss minP lhs' stL.ss ops) := by
  subst hcL
  rw [prattPostfix_eq, sPrattPostfix_eq]
  refine tablePass_rel (fun o _ st hs => ?_) hs
  cases o with
  | «postfix» bp op =>
    refine PassRel.ite (fun _ => ?_) fun _ => hs
    exact (prattOperator_refines hRP hs rfl _ (fun he => by subst he; rw [hl]; rfl) op).orRewind
  | _ => exact hs

theorem prattInfix_refines (hRP : PRefines R P ctx) (hrec : RecRefines m rec srec ctx) (st0 : St) (minP : Nat)
    {stL : St} (hcL : stL.ctx = ctx) {lhs lhs' : Val} (hl : lhs = m.bind lhs') (ops : List PrattOp) {st : St}
    (hs : SameAs st stL) :
    TableRel m ctx stL (prattInfix R rec env m st0.save stL.save minP lhs ops st)
      (sPrattInfix P srec env st0.ss minP lhs' stL.ss ops) := by
  subst hcL
  rw [prattInfix_eq, sPrattInfix_eq]
  refine tablePass_rel (fun o _ st hs => ?_) hs
  cases o with
  | «infix» la bp op =>
    refine PassRel.ite (fun _ => ?_) fun _ => hs
    exact (prattOperand_refines hRP hrec hs rfl _ (fun he => by subst he; rw [hl]; rfl) op _).orRewind
  | _ => exact hs

theorem prattLoop_refines (hRP : PRefines R P ctx) (hrec : RecRefines m rec srec ctx) (ops : List PrattOp) (st0 : St)
    (minP : Nat) {base : List Loc} :
    ∀ (k : Nat) (st : St) (lhs lhs' : Val) (em : List Emis),
      Emitted base st.errs em → st.ctx = ctx → lhs = m.bind lhs' →
      Refines m base ctx (prattLoop R rec env m ops st0.save minP k st lhs)
        (sPrattLoop P srec env ops st0.ss minP k st.ss lhs' em)
  | 0, _, _, _, _, _, _, _ => trivial
  | k + 1, st, lhs, lhs', em, he, hc, hl => by
    have next : ∀ {o so}, Refines m st.errs ctx o so →
        Refines m base ctx (o.andThen fun v st1 => prattLoop R rec env m ops st0.save minP k st1 v)
          (so.andThen fun v s1 e1 => sPrattLoop P srec env ops st0.ss minP k s1 v (em ++ e1)) :=
      fun h => Refines.bind he h fun v st1 v' e1 h1 =>
        prattLoop_refines hRP hrec ops st0 minP k st1 v v' _ h1.emitted h1.ctx h1.val
    rw [prattLoop_succ, sPrattLoop_succ]
    refine (prattPostfix_refines hRP st0 minP hc hl ops (.refl st)).cases (fun st1 hs1 => ?_) fun _ _ => next
    dsimp only [Option.none_or]
    refine (prattInfix_refines hRP hrec st0 minP hc hl ops hs1).cases (fun st2 hs2 => ?_) fun _ _ => next
    have hs : SameAs (st2.rewind st.save) st := .rewind (hs2.errs ▸ List.prefix_refl _) hs2.ctx
    exact ⟨hl, hs.ss, hs.errs ▸ he, hs.ctx.trans hc⟩

/-- **C09 (refinement).** `pratt_go` refines the binding-power recursion, for every table, every input, every
    `min_power` and every recursion fuel. -/
theorem prattGo_refines (hRP : PRefines R P ctx) (env : Env) (m : Mode) (atom : G) (ops : List PrattOp) :
    ∀ (k minP : Nat) (st : St), st.ctx = ctx →
      Refines m st.errs ctx (prattGo R env m atom ops k minP st) (sPratt P env atom ops k minP st.ss)
  | 0, _, _, _ => trivial
  | k + 1, minP, st, hc => by
    have hrec : RecRefines m (prattGo R env m atom ops k) (sPratt P env atom ops k) ctx :=
      prattGo_refines hRP env m atom ops k
    rw [prattGo_succ, sPratt_succ]
    refine Refines.bind0 ?_ fun v st1 v' e1 h1 =>
      prattLoop_refines hRP hrec ops st minP k st1 v v' e1 h1.emitted h1.ctx h1.val
    exact (prattPrefix_refines hRP hrec hc ops (.refl st)).cases (fun st0 hs0 => hRP.same m atom hs0 hc) fun _ _ h => h

theorem run_pRefines (fuel : Nat) (env : Env) (hm : env.memoOn = false) (ctx : Val) :
    PRefines (fun m g st => run fuel env m g st) (fun g s => peg fuel env g s ctx) ctx := by
  intro m' g st' hc
  exact hc ▸ run_refines fuel env m' g st' hm

theorem prattGo_run_refines (fuel : Nat) (env : Env) (hm : env.memoOn = false) (m : Mode) (atom : G)
    (ops : List PrattOp) (k minP : Nat) (st : St) :
    Refines m st.errs st.ctx (prattGo (fun m g st => run fuel env m g st) env m atom ops k minP st)
      (sPratt (fun g s => peg fuel env g s st.ctx) env atom ops k minP st.ss) :=
  prattGo_refines (run_pRefines fuel env hm st.ctx) env m atom ops k minP st rfl

theorem runPratt_refines (fuel : Nat) (env : Env) (m : Mode) (atom : G) (ops : List PrattOp) (st : St)
    (hm : env.memoOn = false) :
    Refines m st.errs st.ctx (runPratt fuel env m atom ops st) (pegPratt fuel env atom ops st.ss st.ctx) :=
  prattGo_run_refines fuel env hm m atom ops fuel 0 st

theorem parseTopPratt_refines (fuel : Nat) (env : Env) (m : Mode) (atom : G) (ops : List PrattOp)
    (hm : env.memoOn = false) :
    TopRefines m (parseTopPratt fuel env m atom ops) (pegTopPratt fuel env atom ops) :=
  Refines.top <| (runPratt_refines fuel env m atom ops St.init hm).bind0 fun _ _ _ _ h1 =>
    (run_refines_all fuel).1.bind hm h1 .check .end_ fun _ _ _ _ h2 => h2.mono h1.val

end Refinement

theorem powers_eq (x : Nat) :
    leftPower true x = 2 * x ∧ rightPower true x = 2 * x + 1 ∧
    leftPower false x = 2 * x + 1 ∧ rightPower false x = 2 * x :=
  ⟨rfl, rfl, rfl, rfl⟩

/-- left-associative: the right operand is parsed with a `min_power` the operator itself does not reach, so an
    equal-power operator is left to the enclosing loop: `a ∘ b ∘ c = (a ∘ b) ∘ c` -/
theorem leftAssoc_power_lt (bp : Nat) : leftPower true bp < rightPower true bp := Nat.lt_succ_self _

/-- right-associative: the right operand's loop accepts the operator again: `a ∘ b ∘ c = a ∘ (b ∘ c)` -/
theorem rightAssoc_power_lt (bp : Nat) : rightPower false bp < leftPower false bp := Nat.lt_succ_self _

theorem power_bounds : ∀ (la : Bool) (bp : Nat),
    2 * bp ≤ leftPower la bp ∧ leftPower la bp ≤ 2 * bp + 1 ∧ 2 * bp ≤ rightPower la bp ∧ rightPower la bp ≤ 2 * bp + 1
  | true, _ => ⟨Nat.le_refl _, Nat.le_succ _, Nat.le_succ _, Nat.le_refl _⟩
  | false, _ => ⟨Nat.le_succ _, Nat.le_refl _, Nat.le_refl _, Nat.le_succ _⟩

/-- the admission test `leftPower ≥ min_power` of an operator inside the right operand of an equal-power operator -/
theorem equal_power_admits (la la' : Bool) (bp : Nat) :
    (leftPower la' bp ≥ rightPower la bp) ↔ (la' = false ∨ la = false) := by
  cases la <;> cases la' <;> simp [leftPower, rightPower] <;> omega

theorem leftAssoc_stops (bp : Nat) : ¬ (leftPower true bp ≥ rightPower true bp) := Nat.not_succ_le_self _

theorem rightAssoc_continues (bp : Nat) : leftPower false bp ≥ rightPower false bp := Nat.le_succ _

theorem two_mul_succ_lt {a b : Nat} (h : a < b) : 2 * a + 1 < 2 * b :=
  Nat.lt_of_lt_of_le (Nat.lt_succ_self _) (Nat.mul_le_mul_left 2 h)

theorem power_lt_of_bp_lt {bp1 bp2 : Nat} (h : bp1 < bp2) (la1 la2 : Bool) :
    leftPower la1 bp1 < leftPower la2 bp2 ∧ leftPower la1 bp1 < rightPower la2 bp2 ∧
    rightPower la1 bp1 < leftPower la2 bp2 ∧ rightPower la1 bp1 < rightPower la2 bp2 := by
  have h1 := power_bounds la1 bp1
  have h2 := power_bounds la2 bp2
  have hk := two_mul_succ_lt h
  exact ⟨Nat.lt_of_le_of_lt h1.2.1 (Nat.lt_of_lt_of_le hk h2.1), Nat.lt_of_le_of_lt h1.2.1 (Nat.lt_of_lt_of_le hk h2.2.2.1),
    Nat.lt_of_le_of_lt h1.2.2.2 (Nat.lt_of_lt_of_le hk h2.1), Nat.lt_of_le_of_lt h1.2.2.2 (Nat.lt_of_lt_of_le hk h2.2.2.1)⟩

/-- so: a looser operator never enters the right operand of a tighter one, a tighter one always does -/
theorem looser_stops {bp1 bp2 : Nat} (h : bp1 < bp2) (la1 la2 : Bool) :
    ¬ (leftPower la1 bp1 ≥ rightPower la2 bp2) :=
  Nat.not_le.2 (power_lt_of_bp_lt h la1 la2).2.1

theorem tighter_continues {bp1 bp2 : Nat} (h : bp1 < bp2) (la1 la2 : Bool) :
    leftPower la2 bp2 ≥ rightPower la1 bp1 :=
  Nat.le_of_lt (power_lt_of_bp_lt h la1 la2).2.2.1

/-- the same for postfix (`2*bp+1`) and prefix (`2*bp` as the operand's `min_power`) operators -/
theorem postfix_power (bp : Nat) : 2 * bp + 1 = rightPower true bp := rfl
theorem prefix_power (bp : Nat) : 2 * bp = leftPower true bp := rfl

section Shape

variable {P : G → SS → SOut} {rec : Nat → SS → SOut} {env : Env}

theorem sPrattPostfix_none_of {start : SS} {minP : Nat} {lhs : Val} {s : SS} {ops : List PrattOp}
    (h : ∀ bp op, PrattOp.postfix bp op ∈ ops → 2 * bp + 1 ≥ minP → P op s = .fail) :
    sPrattPostfix P env start minP lhs s ops = none :=
  sPrattPostfix_eq_none.2 h

/-- every admissible infix operator of the table either fails here, or matches but its right operand cannot be parsed
    ("an operator whose right operand is missing is left unconsumed") ⇒ no infix operator applied
    (and conversely: `sPrattInfix_eq_none`) -/
theorem sPrattInfix_none_of {start : SS} {minP : Nat} {lhs : Val} {s : SS} {ops : List PrattOp}
    (h : ∀ la bp op, PrattOp.infix la bp op ∈ ops → leftPower la bp ≥ minP →
      P op s = .fail ∨ ∃ opv s1 e1, P op s = .ok opv s1 e1 ∧ rec (rightPower la bp) s1 = .fail) :
    sPrattInfix P rec env start minP lhs s ops = none :=
  sPrattInfix_eq_none.2 h

/-- **C09 (maximality).** Where the loop of `sPratt … minP` stops, no admissible postfix operator matches and no
    admissible infix operator matches *with a parsable right operand*. -/
theorem sPrattLoop_maximal {ops : List PrattOp} {start : SS} {minP k : Nat} {s : SS} {lhs : Val} {em : List Emis}
    {v : Val} {s' : SS} {em' : List Emis}
    (h : sPrattLoop P rec env ops start minP k s lhs em = .ok v s' em') :
    (∀ bp op, PrattOp.postfix bp op ∈ ops → 2 * bp + 1 ≥ minP → P op s' = .fail) ∧
    (∀ la bp op, PrattOp.infix la bp op ∈ ops → leftPower la bp ≥ minP →
      P op s' = .fail ∨ ∃ opv s1 e1, P op s' = .ok opv s1 e1 ∧ rec (rightPower la bp) s1 = .fail) :=
  have := (sPrattLoop_ok (I := fun _ _ => True) (fun _ _ => trivial) (fun _ _ => trivial) k trivial h).2
  ⟨sPrattPostfix_eq_none.1 this.1, sPrattInfix_eq_none.1 this.2⟩

theorem sPratt_maximal {atom : G} {ops : List PrattOp} {k minP : Nat} {s : SS} {v : Val} {s' : SS} {em : List Emis}
    (h : sPratt P env atom ops (k + 1) minP s = .ok v s' em) :
    (∀ bp op, PrattOp.postfix bp op ∈ ops → 2 * bp + 1 ≥ minP → P op s' = .fail) ∧
    (∀ la bp op, PrattOp.infix la bp op ∈ ops → leftPower la bp ≥ minP →
      P op s' = .fail ∨
      ∃ opv s1 e1, P op s' = .ok opv s1 e1 ∧ sPratt P env atom ops k (rightPower la bp) s1 = .fail) :=
  have ⟨_, _, _, _, hl⟩ := sPratt_ok h
  sPrattLoop_maximal hl

/-- maximality of the parser itself (`min_power = 0`: every operator is admissible) -/
theorem pegPratt_maximal {fuel : Nat} {env : Env} {atom : G} {ops : List PrattOp} {s : SS} {ctx v : Val} {s' : SS}
    {em : List Emis} (h : pegPratt fuel env atom ops s ctx = .ok v s' em) :
    (∀ bp op, PrattOp.postfix bp op ∈ ops → peg fuel env op s' ctx = .fail) ∧
    (∀ la bp op, PrattOp.infix la bp op ∈ ops →
      peg fuel env op s' ctx = .fail ∨
      ∃ opv s1 e1, peg fuel env op s' ctx = .ok opv s1 e1 ∧
        sPratt (fun g s => peg fuel env g s ctx) env atom ops (fuel - 1) (rightPower la bp) s1 = .fail) := by
  unfold pegPratt at h
  cases fuel with
  | zero => cases h
  | succ k =>
    have := sPratt_maximal h
    exact ⟨fun bp op hm => this.1 bp op hm (Nat.zero_le _), fun la bp op hm => this.2 la bp op hm (Nat.zero_le _)⟩

/-! ### the tree with its powers: an instrumented copy of the reading

  `Val` forgets which operator of the table built a node (and an atom may itself return a value that looks like a
  fold), so the "operand's operators bind at least as tightly" property is stated on a *trace tree* `PTree` that
  records, for every node, the operator's binding power / associativity. `tPratt` is `sPratt` building a `PTree`;
  `sPratt_eq_erase` shows that erasing the annotations gives back exactly `sPratt` (same control flow, same
  positions, same emissions, value = `PTree.val`). -/

inductive PTree where
  | atom (v : Val)
  | pre (bp : Nat) (op : Val) (rhs : PTree) (sp : Nat × Nat)
  | inf (la : Bool) (bp : Nat) (lhs : PTree) (op : Val) (rhs : PTree) (sp : Nat × Nat)
  | post (bp : Nat) (lhs : PTree) (op : Val) (sp : Nat × Nat)

/-- the value the fold callbacks build -/
def PTree.val : PTree → Val
  | .atom v => v
  | .pre _ op rhs sp => foldPrefix op rhs.val sp
  | .inf _ _ lhs op rhs sp => foldInfix lhs.val op rhs.val sp
  | .post _ lhs op sp => foldPostfix lhs.val op sp

inductive TOut where
  | ok (t : PTree) (s : SS) (em : List Emis)
  | fail
  | panic (why : Nat)
  | oof

def TOut.erase : TOut → SOut
  | .ok t s em => .ok t.val s em
  | .fail => .fail
  | .panic w => .panic w
  | .oof => .oof

@[simp] theorem TOut.erase_ok (t s em) : (TOut.ok t s em).erase = .ok t.val s em := rfl
@[simp] theorem TOut.erase_fail : TOut.fail.erase = .fail := rfl
@[simp] theorem TOut.erase_panic (w) : (TOut.panic w).erase = .panic w := rfl
@[simp] theorem TOut.erase_oof : TOut.oof.erase = .oof := rfl

def tPrattPrefix (P : G → SS → SOut) (rec : Nat → SS → TOut) (env : Env) (start : SS) : List PrattOp → Option TOut
  | [] => none
  | .prefix bp op :: rest =>
    match P op start with
    | .ok opv s1 e1 =>
      (match rec (2 * bp) s1 with
       | .ok rhs s2 e2 => some (.ok (.pre bp opv rhs (env.mkSpan start.pos s2.pos)) s2 (e1 ++ e2))
       | .fail => tPrattPrefix P rec env start rest
       | .panic w => some (.panic w)
       | .oof => some .oof)
    | .fail => tPrattPrefix P rec env start rest
    | .panic w => some (.panic w)
    | .oof => some .oof
  | _ :: rest => tPrattPrefix P rec env start rest

def tPrattPostfix (P : G → SS → SOut) (env : Env) (start : SS) (minP : Nat) (lhs : PTree) (s : SS) :
    List PrattOp → Option TOut
  | [] => none
  | .postfix bp op :: rest =>
    if 2 * bp + 1 ≥ minP then
      match P op s with
      | .ok opv s1 e1 => some (.ok (.post bp lhs opv (env.mkSpan start.pos s1.pos)) s1 e1)
      | .fail => tPrattPostfix P env start minP lhs s rest
      | .panic w => some (.panic w)
      | .oof => some .oof
    else tPrattPostfix P env start minP lhs s rest
  | _ :: rest => tPrattPostfix P env start minP lhs s rest

def tPrattInfix (P : G → SS → SOut) (rec : Nat → SS → TOut) (env : Env) (start : SS) (minP : Nat) (lhs : PTree)
    (s : SS) : List PrattOp → Option TOut
  | [] => none
  | .infix la bp op :: rest =>
    if leftPower la bp ≥ minP then
      match P op s with
      | .ok opv s1 e1 =>
        (match rec (rightPower la bp) s1 with
         | .ok rhs s2 e2 => some (.ok (.inf la bp lhs opv rhs (env.mkSpan start.pos s2.pos)) s2 (e1 ++ e2))
         | .fail => tPrattInfix P rec env start minP lhs s rest
         | .panic w => some (.panic w)
         | .oof => some .oof)
      | .fail => tPrattInfix P rec env start minP lhs s rest
      | .panic w => some (.panic w)
      | .oof => some .oof
    else tPrattInfix P rec env start minP lhs s rest
  | _ :: rest => tPrattInfix P rec env start minP lhs s rest

def tPrattLoop (P : G → SS → SOut) (rec : Nat → SS → TOut) (env : Env) (ops : List PrattOp) (start : SS) (minP : Nat) :
    Nat → SS → PTree → List Emis → TOut
  | 0, _, _, _ => .oof
  | k + 1, s, lhs, em =>
    match tPrattPostfix P env start minP lhs s ops with
    | some (.ok v s1 e1) => tPrattLoop P rec env ops start minP k s1 v (em ++ e1)
    | some o => o
    | none =>
      match tPrattInfix P rec env start minP lhs s ops with
      | some (.ok v s2 e2) => tPrattLoop P rec env ops start minP k s2 v (em ++ e2)
      | some o => o
      | none => .ok lhs s em

def tPratt (P : G → SS → SOut) (env : Env) (atom : G) (ops : List PrattOp) : Nat → Nat → SS → TOut
  | 0, _, _ => .oof
  | fuel + 1, minP, s =>
    let rec_ := tPratt P env atom ops fuel
    match tPrattPrefix P rec_ env s ops with
    | some (.ok v s1 e1) => tPrattLoop P rec_ env ops s minP fuel s1 v e1
    | some o => o
    | none =>
      match P atom s with
      | .ok v s1 e1 => tPrattLoop P rec_ env ops s minP fuel s1 (.atom v) e1
      | .fail => .fail
      | .panic w => .panic w
      | .oof => .oof

/-- **the textbook shape.** `Shape ops minP t`: every operator applied by the loop at the top level of `t` (the left
    spine through `post`/`inf` nodes) is an operator of the table whose left power is `≥ minP`; the right operand of
    an infix node respects the node's right power, the operand of a prefix node respects `2*bp`. -/
inductive Shape (ops : List PrattOp) : Nat → PTree → Prop
  | atom {minP v} : Shape ops minP (.atom v)
  | pre {minP bp op opv rhs sp} : PrattOp.prefix bp op ∈ ops → Shape ops (2 * bp) rhs →
      Shape ops minP (.pre bp opv rhs sp)
  | post {minP bp op opv lhs sp} : PrattOp.postfix bp op ∈ ops → 2 * bp + 1 ≥ minP → Shape ops minP lhs →
      Shape ops minP (.post bp lhs opv sp)
  | inf {minP la bp op opv lhs rhs sp} : PrattOp.infix la bp op ∈ ops → leftPower la bp ≥ minP →
      Shape ops minP lhs → Shape ops (rightPower la bp) rhs →
      Shape ops minP (.inf la bp lhs opv rhs sp)

theorem Shape.mono {ops : List PrattOp} {p q : Nat} {t : PTree} (h : Shape ops p t) (hq : q ≤ p) : Shape ops q t := by
  induction h generalizing q with
  | atom => exact .atom
  | pre hm _ ih => exact .pre hm (ih (Nat.le_refl _))
  | post hm hp _ ih => exact .post hm (Nat.le_trans hq hp) (ih hq)
  | inf hm hp _ _ ih1 ih2 => exact .inf hm (Nat.le_trans hq hp) (ih1 hq) (ih2 (Nat.le_refl _))

/-- the powers along the left spine (the operators the loop applied, innermost first is last) -/
def PTree.spine : PTree → List Nat
  | .atom _ => []
  | .pre .. => []
  | .post bp lhs _ _ => (2 * bp + 1) :: lhs.spine
  | .inf la bp lhs _ _ _ => leftPower la bp :: lhs.spine

theorem Shape.spine_ge {ops : List PrattOp} {p : Nat} {t : PTree} (h : Shape ops p t) : ∀ q ∈ t.spine, q ≥ p := by
  induction h with
  | atom => intro _ hq; cases hq
  | pre => intro _ hq; cases hq
  | post hm hp _ ih => intro q hq; rcases List.mem_cons.1 hq with rfl | hq; exact hp; exact ih q hq
  | inf hm hp _ _ ih1 _ => intro q hq; rcases List.mem_cons.1 hq with rfl | hq; exact hp; exact ih1 q hq

/-- equal powers, left-associative: never nested to the right (`a ∘ (b ∘ c)` is not a result) -/
theorem Shape.leftAssoc_not_right_nested {ops : List PrattOp} {p bp : Nat} {lhs l2 r2 : PTree} {op o2 : Val}
    {sp sp2 : Nat × Nat} (h : Shape ops p (.inf true bp lhs op (.inf true bp l2 o2 r2 sp2) sp)) : False := by
  cases h with
  | inf _ _ _ hr => cases hr with
    | inf _ hp2 _ _ => exact leftAssoc_stops bp hp2

/-- a looser infix operator is never at the top level of the right operand of a tighter one -/
theorem Shape.no_looser_in_rhs {ops : List PrattOp} {p bp1 bp2 : Nat} {la1 la2 : Bool} {lhs l2 r2 : PTree}
    {op o2 : Val} {sp sp2 : Nat × Nat} (hlt : bp1 < bp2)
    (h : Shape ops p (.inf la2 bp2 lhs op (.inf la1 bp1 l2 o2 r2 sp2) sp)) : False := by
  cases h with
  | inf _ _ _ hr => cases hr with
    | inf _ hp2 _ _ => exact looser_stops hlt la1 la2 hp2

/-- … nor a looser postfix operator -/
theorem Shape.no_looser_postfix_in_rhs {ops : List PrattOp} {p bp1 bp2 : Nat} {la2 : Bool} {lhs l2 : PTree}
    {op o2 : Val} {sp sp2 : Nat × Nat} (hlt : bp1 < bp2)
    (h : Shape ops p (.inf la2 bp2 lhs op (.post bp1 l2 o2 sp2) sp)) : False := by
  cases h with
  | inf _ _ _ hr => cases hr with
    | post _ hp2 _ =>
      exact Nat.lt_irrefl _ (Nat.lt_of_lt_of_le (two_mul_succ_lt hlt) (Nat.le_trans (power_bounds la2 bp2).2.2.1 hp2))

section Sim
variable {srec : Nat → SS → SOut} {trec : Nat → SS → TOut} {ops : List PrattOp}

/-- a tree, if this is a successful result, has the shape for `min_power = p` -/
def Shaped (ops : List PrattOp) (p : Nat) : Option TOut → Prop
  | some (.ok t _ _) => Shape ops p t
  | _ => True

/-- the recursive calls of the two readings: the same result once the annotations are erased, and a tree of the
    textbook shape -/
def RecTSim (ops : List PrattOp) (srec : Nat → SS → SOut) (trec : Nat → SS → TOut) : Prop :=
  ∀ p s, srec p s = (trec p s).erase ∧ Shaped ops p (some (trec p s))

theorem tPrattPrefix_sim (hrec : RecTSim ops srec trec) (start : SS) (minP : Nat) (l : List PrattOp)
    (hl : ∀ o ∈ l, o ∈ ops) :
    sPrattPrefix P srec env start l = (tPrattPrefix P trec env start l).map TOut.erase ∧
      Shaped ops minP (tPrattPrefix P trec env start l) := by
  induction l with
  | nil => exact ⟨rfl, trivial⟩
  | cons o rest ih =>
    have ih := ih fun o ho => hl o (List.mem_cons_of_mem _ ho)
    cases o with
    | «prefix» bp op =>
      rw [sPrattPrefix, tPrattPrefix]
      cases P op start with
      | ok opv s1 e1 =>
        obtain ⟨he, hs⟩ := hrec (2 * bp) s1
        dsimp only
        rw [he]
        generalize trec (2 * bp) s1 = r at hs ⊢
        cases r with
        | ok rhs s2 e2 => exact ⟨rfl, .pre (hl _ (List.mem_cons_self ..)) hs⟩
        | fail => exact ih
        | _ => exact ⟨rfl, trivial⟩
      | fail => exact ih
      | _ => exact ⟨rfl, trivial⟩
    | _ => exact ih

theorem tPrattPostfix_sim (start : SS) {minP : Nat} {lhs : PTree} (hlhs : Shape ops minP lhs) (s : SS)
    (l : List PrattOp) (hl : ∀ o ∈ l, o ∈ ops) :
    sPrattPostfix P env start minP lhs.val s l = (tPrattPostfix P env start minP lhs s l).map TOut.erase ∧
      Shaped ops minP (tPrattPostfix P env start minP lhs s l) := by
  induction l with
  | nil => exact ⟨rfl, trivial⟩
  | cons o rest ih =>
    have ih := ih fun o ho => hl o (List.mem_cons_of_mem _ ho)
    cases o with
    | «postfix» bp op =>
      rw [sPrattPostfix, tPrattPostfix]
      by_cases hp : 2 * bp + 1 ≥ minP
      · rw [if_pos hp, if_pos hp]
        cases P op s with
        | ok opv s1 e1 => exact ⟨rfl, .post (hl _ (List.mem_cons_self ..)) hp hlhs⟩
        | fail => exact ih
        | _ => exact ⟨rfl, trivial⟩
      · rw [if_neg hp, if_neg hp]; exact ih
    | _ => exact ih

theorem tPrattInfix_sim (hrec : RecTSim ops srec trec) (start : SS) {minP : Nat} {lhs : PTree}
    (hlhs : Shape ops minP lhs) (s : SS) (l : List PrattOp) (hl : ∀ o ∈ l, o ∈ ops) :
    sPrattInfix P srec env start minP lhs.val s l = (tPrattInfix P trec env start minP lhs s l).map TOut.erase ∧
      Shaped ops minP (tPrattInfix P trec env start minP lhs s l) := by
  induction l with
  | nil => exact ⟨rfl, trivial⟩
  | cons o rest ih =>
    have ih := ih fun o ho => hl o (List.mem_cons_of_mem _ ho)
    cases o with
    | «infix» la bp op =>
      rw [sPrattInfix, tPrattInfix]
      by_cases hp : leftPower la bp ≥ minP
      · rw [if_pos hp, if_pos hp]
        cases P op s with
        | ok opv s1 e1 =>
          obtain ⟨he, hs⟩ := hrec (rightPower la bp) s1
          dsimp only
          rw [he]
          generalize trec (rightPower la bp) s1 = r at hs ⊢
          cases r with
          | ok rhs s2 e2 => exact ⟨rfl, .inf (hl _ (List.mem_cons_self ..)) hp hlhs hs⟩
          | fail => exact ih
          | _ => exact ⟨rfl, trivial⟩
        | fail => exact ih
        | _ => exact ⟨rfl, trivial⟩
      · rw [if_neg hp, if_neg hp]; exact ih
    | _ => exact ih

theorem tPrattLoop_sim (hrec : RecTSim ops srec trec) (start : SS) (minP : Nat) :
    ∀ (k : Nat) (s : SS) (lhs : PTree) (em : List Emis), Shape ops minP lhs →
      sPrattLoop P srec env ops start minP k s lhs.val em = (tPrattLoop P trec env ops start minP k s lhs em).erase ∧
        Shaped ops minP (some (tPrattLoop P trec env ops start minP k s lhs em)) := by
  intro k
  induction k with
  | zero => intro _ _ _ _; exact ⟨rfl, trivial⟩
  | succ k ih =>
    intro s lhs em hlhs
    rw [sPrattLoop, tPrattLoop]
    obtain ⟨he, hs⟩ := tPrattPostfix_sim (P := P) (env := env) start hlhs s ops fun _ h => h
    rw [he]
    generalize tPrattPostfix P env start minP lhs s ops = r at hs ⊢
    cases r with
    | some o =>
      cases o with
      | ok v s1 e1 => exact ih _ _ _ hs
      | _ => exact ⟨rfl, trivial⟩
    | none =>
      obtain ⟨he, hs⟩ := tPrattInfix_sim (P := P) (env := env) hrec start hlhs s ops fun _ h => h
      dsimp only [Option.map_none]
      rw [he]
      generalize tPrattInfix P trec env start minP lhs s ops = r at hs ⊢
      cases r with
      | some o =>
        cases o with
        | ok v s1 e1 => exact ih _ _ _ hs
        | _ => exact ⟨rfl, trivial⟩
      | none => exact ⟨rfl, hlhs⟩

end Sim

theorem tPratt_sim (atom : G) (ops : List PrattOp) :
    ∀ (k minP : Nat) (s : SS), sPratt P env atom ops k minP s = (tPratt P env atom ops k minP s).erase ∧
      Shaped ops minP (some (tPratt P env atom ops k minP s)) := by
  intro k
  induction k with
  | zero => intro _ _; exact ⟨rfl, trivial⟩
  | succ k ih =>
    intro minP s
    rw [sPratt, tPratt]
    obtain ⟨he, hs⟩ := tPrattPrefix_sim (P := P) (env := env) ih s minP ops fun _ h => h
    rw [he]
    generalize tPrattPrefix P (tPratt P env atom ops k) env s ops = r at hs ⊢
    cases r with
    | some o =>
      cases o with
      | ok v s1 e1 => exact tPrattLoop_sim ih s minP k _ _ _ hs
      | _ => exact ⟨rfl, trivial⟩
    | none =>
      cases P atom s with
      | ok v s1 e1 => exact tPrattLoop_sim ih s minP k s1 (.atom v) e1 .atom
      | _ => exact ⟨rfl, trivial⟩

theorem sPratt_eq_erase (atom : G) (ops : List PrattOp) (k minP : Nat) (s : SS) :
    sPratt P env atom ops k minP s = (tPratt P env atom ops k minP s).erase :=
  (tPratt_sim atom ops k minP s).1

/-- **C09 (shape).** Every successful result of the reading is the value of a trace tree of the textbook shape:
    each operand only has top-level operators that bind at least as tightly as its parent allows. -/
theorem sPratt_shape {atom : G} {ops : List PrattOp} {k minP : Nat} {s : SS} {v : Val} {s' : SS} {em : List Emis}
    (h : sPratt P env atom ops k minP s = .ok v s' em) :
    ∃ t, tPratt P env atom ops k minP s = .ok t s' em ∧ t.val = v ∧ Shape ops minP t := by
  rw [sPratt_eq_erase] at h
  have hs := (tPratt_sim (P := P) (env := env) atom ops k minP s).2
  generalize tPratt P env atom ops k minP s = r at h hs
  cases r with
  | ok t s1 e1 => cases h; exact ⟨t, rfl, rfl, hs⟩
  | _ => cases h

end Shape

section Flatten

/-- in-order flattening of a fold-built tree (leaves: `tok t` / `toks ts`) -/
def flatten : Val → List Nat
  | .tok t => [t]
  | .toks ts => ts
  | .tag 20 (.pair (.pair (.pair l op) r) _) => flatten l ++ flatten op ++ flatten r
  | .tag 21 (.pair (.pair op r) _) => flatten op ++ flatten r
  | .tag 22 (.pair (.pair l op) _) => flatten l ++ flatten op
  | _ => []

@[simp] theorem flatten_tok (t : Nat) : flatten (.tok t) = [t] := rfl
@[simp] theorem flatten_toks (ts : List Nat) : flatten (.toks ts) = ts := rfl
@[simp] theorem flatten_foldInfix (l op r : Val) (sp : Nat × Nat) :
    flatten (foldInfix l op r sp) = flatten l ++ flatten op ++ flatten r := rfl
@[simp] theorem flatten_foldPrefix (op r : Val) (sp : Nat × Nat) :
    flatten (foldPrefix op r sp) = flatten op ++ flatten r := rfl
@[simp] theorem flatten_foldPostfix (l op : Val) (sp : Nat × Nat) :
    flatten (foldPostfix l op sp) = flatten l ++ flatten op := rfl

/-- `v` flattens to exactly the tokens between `s` and `s'` -/
def Consumed (env : Env) (v : Val) (s s' : SS) : Prop :=
  s.pos ≤ s'.pos ∧ flatten v = (env.toks.drop s.pos).take (s'.pos - s.pos)

theorem span_append (toks : List Nat) {a b c : Nat} (h1 : a ≤ b) (h2 : b ≤ c) :
    (toks.drop a).take (b - a) ++ (toks.drop b).take (c - b) = (toks.drop a).take (c - a) := by
  obtain ⟨i, rfl⟩ := Nat.exists_eq_add_of_le h1
  obtain ⟨j, rfl⟩ := Nat.exists_eq_add_of_le h2
  rw [Nat.add_sub_cancel_left, Nat.add_sub_cancel_left, Nat.add_assoc, Nat.add_sub_cancel_left, List.take_add,
    List.drop_drop]

theorem Consumed.refl (env : Env) (s : SS) : Consumed env .unit s s :=
  ⟨Nat.le_refl _, by rw [Nat.sub_self]; rfl⟩

theorem Consumed.append {env : Env} {a b c : Val} {s0 s1 s2 : SS} (h1 : Consumed env a s0 s1)
    (h2 : Consumed env b s1 s2) (hc : flatten c = flatten a ++ flatten b) : Consumed env c s0 s2 :=
  ⟨Nat.le_trans h1.1 h2.1, by rw [hc, h1.2, h2.2, span_append _ h1.1 h2.1]⟩

theorem Consumed.append3 {env : Env} {a b c d : Val} {s0 s1 s2 s3 : SS} (h1 : Consumed env a s0 s1)
    (h2 : Consumed env b s1 s2) (h3 : Consumed env c s2 s3) (hd : flatten d = flatten a ++ flatten b ++ flatten c) :
    Consumed env d s0 s3 :=
  ⟨Nat.le_trans h1.1 (Nat.le_trans h2.1 h3.1), by
    rw [hd, h1.2, h2.2, h3.2, span_append _ h1.1 h2.1, span_append _ (Nat.le_trans h1.1 h2.1) h3.1]⟩

/-- a parser whose successful results flatten to what it consumed -/
def TokFaithful (env : Env) (P : G → SS → SOut) (g : G) : Prop :=
  ∀ s v s' em, P g s = .ok v s' em → Consumed env v s s'

def PrattOp.parser : PrattOp → G
  | .infix _ _ op => op
  | .prefix _ op => op
  | .postfix _ op => op

variable {P : G → SS → SOut} {rec : Nat → SS → SOut} {env : Env}

def RecFaithful (env : Env) (rec : Nat → SS → SOut) : Prop :=
  ∀ p s v s' em, rec p s = .ok v s' em → Consumed env v s s'

section Consumed
variable {ops : List PrattOp} {op : G} {start s s' : SS} {lhs v : Val} {em : List Emis} {minP : Nat}

/-- an attempt after a left operand `lhs` spanning `start … s` (no left operand: `.unit` at `s`) whose fold callback
    keeps the order of the values: the result spans `start … s'` -/
theorem sPrattOperator_consumed (hop : TokFaithful env P op) (hl : Consumed env lhs start s) {from_ : Nat}
    {f : Val → Nat × Nat → Val} (hf : ∀ a sp, flatten (f a sp) = flatten lhs ++ flatten a)
    (h : sPrattOperator P env from_ f op s = .ok v s' em) : Consumed env v start s' := by
  obtain ⟨opv, h1, rfl⟩ := sPrattOperator_eq_ok h
  exact hl.append (hop _ _ _ _ h1) (hf ..)

theorem sPrattOperand_consumed (hrec : RecFaithful env rec) (hop : TokFaithful env P op) (hl : Consumed env lhs start s)
    {from_ p : Nat} {f : Val → Val → Nat × Nat → Val}
    (hf : ∀ a b sp, flatten (f a b sp) = flatten lhs ++ flatten a ++ flatten b)
    (h : sPrattOperand P rec env from_ f op p s = .ok v s' em) : Consumed env v start s' := by
  obtain ⟨opv, s1, e1, rhs, e2, h1, h2, rfl, -⟩ := sPrattOperand_eq_ok h
  exact hl.append3 (hop _ _ _ _ h1) (hrec _ _ _ _ _ h2) (hf ..)

theorem sPrattPrefix_consumed (hrec : RecFaithful env rec) (hops : ∀ o ∈ ops, TokFaithful env P o.parser)
    (h : sPrattPrefix P rec env start ops = some (.ok v s' em)) : Consumed env v start s' := by
  obtain ⟨bp, op, hm, h⟩ := sPrattPrefix_some h
  exact sPrattOperand_consumed hrec (hops _ hm) (.refl env start) (fun _ _ _ => rfl) h.symm

theorem sPrattPostfix_consumed (hops : ∀ o ∈ ops, TokFaithful env P o.parser) (hl : Consumed env lhs start s)
    (h : sPrattPostfix P env start minP lhs s ops = some (.ok v s' em)) : Consumed env v start s' := by
  obtain ⟨bp, op, hm, _, h⟩ := sPrattPostfix_some h
  exact sPrattOperator_consumed (hops _ hm) hl (fun _ _ => rfl) h.symm

theorem sPrattInfix_consumed (hrec : RecFaithful env rec) (hops : ∀ o ∈ ops, TokFaithful env P o.parser)
    (hl : Consumed env lhs start s) (h : sPrattInfix P rec env start minP lhs s ops = some (.ok v s' em)) :
    Consumed env v start s' := by
  obtain ⟨la, bp, op, hm, _, h⟩ := sPrattInfix_some h
  exact sPrattOperand_consumed hrec (hops _ hm) hl (fun _ _ _ => rfl) h.symm

end Consumed

/-- **C09 (token order), general form.** If the atom parser and every operator parser return values that flatten to
    the tokens they consumed, so does the pratt reading: the flattening of the tree is exactly the consumed tokens,
    in order. -/
theorem sPratt_consumed (atom : G) (ops : List PrattOp) (hatom : TokFaithful env P atom)
    (hops : ∀ o ∈ ops, TokFaithful env P o.parser) :
    ∀ (k minP : Nat) (s : SS) {v : Val} {s' : SS} {em : List Emis},
      sPratt P env atom ops k minP s = .ok v s' em → Consumed env v s s'
  | 0, _, _, _, _, _, h => by cases h
  | k + 1, minP, s, v, s', em, h => by
    have hrec : RecFaithful env (sPratt P env atom ops k) := fun p s v s' em h =>
      sPratt_consumed atom ops hatom hops k p s h
    obtain ⟨v1, s1, e1, h1, hl⟩ := sPratt_ok h
    refine (sPrattLoop_ok (I := fun s lhs => Consumed env lhs _ s) (sPrattPostfix_consumed hops)
      (sPrattInfix_consumed hrec hops) k ?_ hl).1
    exact h1.elim (sPrattPrefix_consumed hrec hops) (hatom _ _ _ _)

theorem drop_of_getElem? {l : List Nat} {p t : Nat} (h : l[p]? = some t) : l.drop p = t :: l.drop (p + 1) := by
  obtain ⟨hlt, rfl⟩ := List.getElem?_eq_some_iff.1 h
  exact List.drop_eq_getElem_cons hlt

theorem sTokenPrim_consumed {env : Env} {s : SS} {accept : Nat → Option Val}
    (hacc : ∀ t v, accept t = some v → v = .tok t) {v s' em} (h : sTokenPrim env s accept = .ok v s' em) :
    Consumed env v s s' := by
  unfold sTokenPrim at h
  cases ht : env.toks[s.pos]? with
  | none => rw [ht] at h; cases h
  | some t =>
    rw [ht] at h
    cases ha : accept t with
    | none => simp only [ha] at h; cases h
    | some w =>
      simp only [ha] at h
      cases hacc t w ha
      cases h
      exact ⟨Nat.le_succ _, by rw [SS.adv, Nat.add_sub_cancel_left, drop_of_getElem? ht]; rfl⟩

theorem sJust_consumed {env : Env} (ts : List Nat) : ∀ (s s' : SS), sJust env ts s = some s' →
    s'.pos = s.pos + ts.length ∧ ts = (env.toks.drop s.pos).take ts.length := by
  induction ts with
  | nil => intro s s' h; cases h; exact ⟨rfl, rfl⟩
  | cons e es ih =>
    intro s s' h
    rw [sJust] at h
    cases ht : env.toks[s.pos]? with
    | none => rw [ht] at h; cases h
    | some t =>
      rw [ht] at h
      by_cases hte : (t == e) = true
      · obtain ⟨hp, hes⟩ := ih _ _ ((if_pos hte).symm.trans h)
        cases eq_of_beq hte
        rw [drop_of_getElem? ht, List.length_cons, List.take_succ_cons]
        exact ⟨hp.trans (by rw [SS.adv, Nat.add_assoc, Nat.add_comm 1]), congrArg (e :: ·) hes⟩
      · cases (if_neg hte).symm.trans h

/-- a token-level table: the atom is `any` / `one_of(..)` / `none_of(..)`, every operator parser is `just(..)` -/
def TokenAtom : G → Prop
  | .any | .oneOf _ | .noneOf _ => True
  | _ => False

def TokenOp (o : PrattOp) : Prop := ∃ ts, o.parser = .just ts

@[elab_as_elim]
theorem TokenAtom.cases {motive : G → Prop} (any : motive .any) (oneOf : ∀ ts, motive (.oneOf ts))
    (noneOf : ∀ ts, motive (.noneOf ts)) {g : G} (hg : TokenAtom g) : motive g := by
  unfold TokenAtom at hg
  split at hg
  · exact any
  · exact oneOf _
  · exact noneOf _
  · exact hg.elim

theorem pegStep_token_faithful {Pr : SRunner} {N : SNextRunner} {K : SMkRunner} {L : Nat} {env : Env} {ctx : Val} {g : G}
    (hg : TokenAtom g ∨ ∃ ts, g = .just ts) :
    ∀ s v s' em, pegStep Pr N K L env g s ctx = .ok v s' em → Consumed env v s s' := by
  rcases hg with hg | ⟨ts, rfl⟩
  · refine hg.cases (fun s v s' em h => ?_) (fun ts s v s' em h => ?_) (fun ts s v s' em h => ?_)
    · rw [pegStep_any] at h
      exact sTokenPrim_consumed (fun t v h => (Option.some.inj h).symm) h
    · rw [pegStep_oneOf] at h
      refine sTokenPrim_consumed (fun t v h => ?_) h
      by_cases hc : ts.contains t = true
      · exact (Option.some.inj ((if_pos hc).symm.trans h)).symm
      · cases (if_neg hc).symm.trans h
    · rw [pegStep_noneOf] at h
      refine sTokenPrim_consumed (fun t v h => ?_) h
      by_cases hc : ts.contains t = true
      · cases (if_pos hc).symm.trans h
      · exact (Option.some.inj ((if_neg hc).symm.trans h)).symm
  · intro s v s' em h
    rw [pegStep_just] at h
    cases hj : sJust env ts s with
    | none => rw [hj] at h; cases h
    | some s1 =>
      rw [hj] at h
      cases h
      obtain ⟨hp, hts⟩ := sJust_consumed ts s s' hj
      exact ⟨hp ▸ Nat.le_add_right _ _, by rw [hp, Nat.add_sub_cancel_left]; exact hts⟩

theorem peg_token_faithful (n : Nat) (env : Env) (ctx : Val) {g : G} (hg : TokenAtom g ∨ ∃ ts, g = .just ts) :
    TokFaithful env (fun g s => peg n env g s ctx) g := by
  intro s v s' em h
  cases n with
  | zero => cases h
  | succ n => exact pegStep_token_faithful hg s v s' em h

/-- **C09 (token order).** For a token-level table the flattening of the tree built by `atom.pratt(ops)` is exactly
    the consumed tokens, in order. -/
theorem pegPratt_flatten {fuel : Nat} {env : Env} {atom : G} {ops : List PrattOp} (hatom : TokenAtom atom)
    (hops : ∀ o ∈ ops, TokenOp o) {s : SS} {ctx v : Val} {s' : SS} {em : List Emis}
    (h : pegPratt fuel env atom ops s ctx = .ok v s' em) :
    s.pos ≤ s'.pos ∧ flatten v = (env.toks.drop s.pos).take (s'.pos - s.pos) :=
  sPratt_consumed atom ops (peg_token_faithful fuel env ctx (.inl hatom))
    (fun o ho => peg_token_faithful fuel env ctx (.inr (hops o ho))) fuel 0 s h

/-- … and, through the refinement, of the tree built by the machine in `emit` mode -/
theorem runPratt_flatten {fuel : Nat} {env : Env} (hm : env.memoOn = false) {atom : G} {ops : List PrattOp}
    (hatom : TokenAtom atom) (hops : ∀ o ∈ ops, TokenOp o) {st : St} {v : Val} {st' : St}
    (h : runPratt fuel env .emit atom ops st = .ok v st') :
    st.pos ≤ st'.pos ∧ flatten v = (env.toks.drop st.pos).take (st'.pos - st.pos) := by
  have hr := runPratt_refines fuel env .emit atom ops st hm
  rw [h] at hr
  cases hp : pegPratt fuel env atom ops st.ss st.ctx with
  | ok v' s' em =>
    rw [hp] at hr
    have hr' : OkRel .emit st.errs st.ctx v st' v' s' em := hr
    have hv : v = v' := by simpa using hr'.val
    have := pegPratt_flatten hatom hops hp
    rw [← hr'.ss, ← hv] at this
    simpa using this
  | fail => rw [hp] at hr; exact hr.elim
  | panic w => rw [hp] at hr; exact hr.elim
  | oof => rw [hp] at hr; exact hr.elim

end Flatten

/-! ## Recursive expression grammars `recursive(|e| atom.pratt(ops))` (`XEnv`)

  Inside the atom and the operator parsers `.call hole` is the expression itself (parenthesised sub-expressions, call
  arguments …): `pegX` is the ordinary `pegStep` everywhere and the binding-power recursion at the hole. -/

/-- at the hole the reading *is* the textbook algorithm over the reading of the atom / operator parsers -/
theorem pegX_hole (x : XEnv) (n : Nat) (env : Env) (s : SS) (ctx : Val) :
    pegX x (n + 1) env (.call x.hole) s ctx = sPratt (fun g s => pegX x n env g s ctx) env x.atom x.ops n 0 s := by
  rw [pegX]
  exact if_pos (beq_self_eq_true x.hole)

/-- so every (sub-)expression — however deeply parenthesised — is a power-respecting tree -/
theorem pegX_shape (x : XEnv) {n : Nat} {env : Env} {s : SS} {ctx v : Val} {s' : SS} {em : List Emis}
    (h : pegX x (n + 1) env (.call x.hole) s ctx = .ok v s' em) :
    ∃ t, tPratt (fun g s => pegX x n env g s ctx) env x.atom x.ops n 0 s = .ok t s' em ∧ t.val = v ∧
      Shape x.ops 0 t := by
  rw [pegX_hole] at h
  exact sPratt_shape h

#print axioms prattGo_refines
#print axioms prattGo_run_refines
#print axioms runPratt_refines
#print axioms parseTopPratt_refines
#print axioms power_lt_of_bp_lt
#print axioms equal_power_admits
#print axioms sPrattLoop_maximal
#print axioms sPratt_maximal
#print axioms pegPratt_maximal
#print axioms sPratt_eq_erase
#print axioms sPratt_shape
#print axioms sPratt_consumed
#print axioms pegPratt_flatten
#print axioms runPratt_flatten

end Chumsky
