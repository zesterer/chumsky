/-
  C04 for Pratt parsers — `pratt_go` in check mode is the erasure of `pratt_go` in emit mode (same outcome kind, identical
  final state; the fold callbacks are the only thing check mode skips), over an arbitrary runner for the atom / operator
  grammars (`ExtAll` instantiates it for the extension machine, recursive expression grammars included).
-/
import ChumskyModel.Proofs.Lemmas.PrattTable
import ChumskyModel.Proofs.Lemmas.ModeSim
namespace Chumsky

def sumErase : Sum St Out → Sum St Out
  | .inl st => .inl st
  | .inr o => .inr o.erase

@[simp] theorem sumErase_inl (st : St) : sumErase (.inl st) = .inl st := rfl
@[simp] theorem sumErase_inr (o : Out) : sumErase (.inr o) = .inr o.erase := rfl

theorem sumErase_eq_map (r : Sum St Out) : sumErase r = Sum.map id Out.erase r := by cases r <;> rfl

def PModeSim (R : Mode → G → St → Out) : Prop := ∀ g st, R .check g st = (R .emit g st).erase
def RecModeSim (recC recE : Nat → St → Out) : Prop := ∀ p st, recC p st = (recE p st).erase

variable {R : Mode → G → St → Out} {recC recE : Nat → St → Out}

theorem prattOperator_modeSim (hR : PModeSim R) (env : Env) (start : Nat) (f f' : Val → Nat × Nat → Val) (op : G) (st : St) :
    prattOperator R env .check start f op st = (prattOperator R env .emit start f' op st).erase :=
  Out.andThen_modeSim (hR op st) fun _ _ => rfl

theorem prattOperand_modeSim (hR : PModeSim R) (hrec : RecModeSim recC recE) (env : Env) (start : Nat)
    (f f' : Val → Val → Nat × Nat → Val) (op : G) (p : Nat) (st : St) :
    prattOperand R recC env .check start f op p st = (prattOperand R recE env .emit start f' op p st).erase :=
  Out.andThen_modeSim (hR op st) fun _ st1 => Out.andThen_modeSim (hrec p st1) fun _ _ => rfl

theorem Out.orRewind_erase {oc oe : Out} (h : oc = oe.erase) (c : Chk) :
    oc.orRewind c = Sum.map id Out.erase (oe.orRewind c) := by
  subst h; cases oe <;> rfl

theorem prattPrefix_modeSim (hR : PModeSim R) (hrec : RecModeSim recC recE) (env : Env) (c : Chk) (ops : List PrattOp)
    (st : St) : prattPrefix R recC env .check c ops st = sumErase (prattPrefix R recE env .emit c ops st) := by
  rw [prattPrefix_eq, prattPrefix_eq, sumErase_eq_map]
  refine tablePass_map_id (fs := id) (fun o st => ?_) ops st
  cases o with
  | «prefix» bp op => exact Out.orRewind_erase (prattOperand_modeSim hR hrec ..) c
  | _ => rfl

theorem prattPostfix_modeSim (hR : PModeSim R) (env : Env) (c c' : Chk) (minP : Nat) (lhs lhs' : Val)
    (ops : List PrattOp) (st : St) :
    prattPostfix R env .check c c' minP lhs ops st = sumErase (prattPostfix R env .emit c c' minP lhs' ops st) := by
  rw [prattPostfix_eq, prattPostfix_eq, sumErase_eq_map]
  refine tablePass_map_id (fs := id) (fun o st => ?_) ops st
  cases o with
  | «postfix» bp op => exact ite_map _ (Out.orRewind_erase (prattOperator_modeSim hR ..) c') rfl
  | _ => rfl

theorem prattInfix_modeSim (hR : PModeSim R) (hrec : RecModeSim recC recE) (env : Env) (c c' : Chk) (minP : Nat)
    (lhs lhs' : Val) (ops : List PrattOp) (st : St) :
    prattInfix R recC env .check c c' minP lhs ops st = sumErase (prattInfix R recE env .emit c c' minP lhs' ops st) := by
  rw [prattInfix_eq, prattInfix_eq, sumErase_eq_map]
  refine tablePass_map_id (fs := id) (fun o st => ?_) ops st
  cases o with
  | «infix» la bp op => exact ite_map _ (Out.orRewind_erase (prattOperand_modeSim hR hrec ..) c') rfl
  | _ => rfl

theorem prattLoop_modeSim (hR : PModeSim R) (hrec : RecModeSim recC recE) (env : Env) (ops : List PrattOp) (c : Chk)
    (minP : Nat) :
    ∀ (k : Nat) (st : St) (lhs' : Val),
      prattLoop R recC env .check ops c minP k st .unit = (prattLoop R recE env .emit ops c minP k st lhs').erase
  | 0, _, _ => rfl
  | k + 1, st, lhs' => by
    have next : ∀ o : Out, (o.erase.andThen fun v st1 => prattLoop R recC env .check ops c minP k st1 v) =
        (o.andThen fun v st1 => prattLoop R recE env .emit ops c minP k st1 v).erase :=
      fun _ => Out.andThen_modeSim rfl fun v st1 => prattLoop_modeSim hR hrec env ops c minP k st1 v
    rw [prattLoop_succ, prattLoop_succ, prattPostfix_modeSim hR env c st.save minP .unit lhs' ops st]
    cases prattPostfix R env .emit c st.save minP lhs' ops st with
    | inr o => exact next o
    | inl st1 =>
      dsimp only [sumErase]
      rw [prattInfix_modeSim hR hrec env c st.save minP .unit lhs' ops st1]
      cases prattInfix R recE env .emit c st.save minP lhs' ops st1 with
      | inr o => exact next o
      | inl st2 => rfl

/-- **C04 for `pratt_go`**: check = erase ∘ emit, for every table, `min_power`, state and recursion fuel -/
theorem prattGo_modeSim (hR : PModeSim R) (env : Env) (atom : G) (ops : List PrattOp) :
    ∀ (k minP : Nat) (st : St),
      prattGo R env .check atom ops k minP st = (prattGo R env .emit atom ops k minP st).erase
  | 0, _, _ => rfl
  | k + 1, minP, st => by
    have hrec : RecModeSim (prattGo R env .check atom ops k) (prattGo R env .emit atom ops k) :=
      prattGo_modeSim hR env atom ops k
    rw [prattGo_succ, prattGo_succ, prattPrefix_modeSim hR hrec env st.save ops st]
    refine Out.andThen_modeSim ?_ fun v st1 => prattLoop_modeSim hR hrec env ops st.save minP k st1 v
    cases prattPrefix R (prattGo R env .emit atom ops k) env .emit st.save ops st with
    | inr o => rfl
    | inl st0 => exact hR atom st0

theorem run_pModeSim (fuel : Nat) (env : Env) : PModeSim (fun m g st => run fuel env m g st) :=
  fun g st => run_check_eq_erase_emit fuel env g st

theorem runPratt_modeSim (fuel : Nat) (env : Env) (atom : G) (ops : List PrattOp) (st : St) :
    runPratt fuel env .check atom ops st = (runPratt fuel env .emit atom ops st).erase :=
  prattGo_modeSim (run_pModeSim fuel env) env atom ops fuel 0 st

end Chumsky
