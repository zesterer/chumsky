import Lean.Meta.Tactic.Simp.RegisterCommand

/-- the equations of `step`, `stepNext`, `pegStep`, `pegNext`, one per constructor (`Lemmas/StepEqns.lean`) -/
register_simp_attr step_eqs

/-- normal form for `mapSp` (`Lemmas/KindSim.lean`): pushed out of the operations on states, into the constructors of
    results and values -/
register_simp_attr kind_simps
