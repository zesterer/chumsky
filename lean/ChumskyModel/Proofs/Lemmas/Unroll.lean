/-
  Proofs/Lemmas/Unroll.lean — C12: a parser defined with `recursive(..)` / `Recursive::declare`+`define` (`call k` +
  the table `env.defs`, mutual recursion = several entries) behaves exactly like the same grammar with the references
  expanded as deeply as the run needs.

  `G.unroll1 f`      replace every `call k` by `f k`, homomorphic on every other constructor (structural on the syntax)
  `unrollD defs d k` definition `k` expanded `d` levels deep (recursion on `d`): `todo` at depth 0,
                     `boxed (unroll1 (unrollD defs d) defs[k])` at depth `d+1` (`boxed` = the identity wrapper, it costs the
                     same one unit of fuel as `call`), and the panicking `call k` itself when `k` is undefined
  `G.unroll defs d`  `= G.unroll1 (unrollD defs d)`

  Main results (plain equality of `Out` / `ItOut` / `MkOut` / `TopOut`: same outcome, value, whole state, panic code):
    `run_unroll`, `next_unroll`, `mkIter_unroll`   fuel `n`, depth `d ≥ n`: the run on `env` = the run on the unrolled
                                                   grammar with the EMPTY definition table. No side condition: the
                                                   `todo` leaves are never reached (after `n` nested references the
                                                   fuel is 0 on both sides), undefined references panic alike,
                                                   `memoOn` is arbitrary (memo ids and keys are untouched)
    `run_unroll_defs`                              … with any table not longer than `env.defs`
    `parseTop_unroll`                              the same for `Parser::parse` / `check`
    `G.unroll_callFree`                            closed table + closed grammar ⇒ the unrolled grammar has no `call`
    `run_callFree_defs`                            a call-free grammar never looks at the table
    `run_unroll_closed`                            closed form of C12: call-free grammar, any table on the right
  Proof: one-step lemmas `step_unroll` / `stepNext_unroll` / `stepMk_unroll` for arbitrary runners related by
  `USimR/USimN/USimK` (every constructor except `call` unfolds to the same shape), loop helpers depend on the runner only
  through its extensional behaviour (`*_unroll` in `section loops`), then induction on the fuel for all `d ≥ n` at once.
-/
import ChumskyModel.Proofs.Lemmas.StepEqns
set_option linter.unusedVariables false
namespace Chumsky

mutual
def G.unroll1 (f : Nat → G) : G → G
  | .end_ => .end_
  | .empty => .empty
  | .any => .any
  | .just x0 => .just x0
  | .oneOf x0 => .oneOf x0
  | .noneOf x0 => .noneOf x0
  | .select x0 => .select x0
  | .custom x0 => .custom x0
  | .todo => .todo
  | .then_ x0 x1 => .then_ (G.unroll1 f x0) (G.unroll1 f x1)
  | .ignoreThen x0 x1 => .ignoreThen (G.unroll1 f x0) (G.unroll1 f x1)
  | .thenIgnore x0 x1 => .thenIgnore (G.unroll1 f x0) (G.unroll1 f x1)
  | .delimitedBy x0 x1 x2 => .delimitedBy (G.unroll1 f x0) (G.unroll1 f x1) (G.unroll1 f x2)
  | .paddedBy x0 x1 => .paddedBy (G.unroll1 f x0) (G.unroll1 f x1)
  | .group x0 => .group (unroll1L f x0)
  | .groupArr x0 => .groupArr (unroll1L f x0)
  | .or_ x0 x1 => .or_ (G.unroll1 f x0) (G.unroll1 f x1)
  | .choice x0 x1 => .choice x0 (unroll1L f x1)
  | .orNot x0 => .orNot (G.unroll1 f x0)
  | .not_ x0 => .not_ (G.unroll1 f x0)
  | .andIs x0 x1 => .andIs (G.unroll1 f x0) (G.unroll1 f x1)
  | .rewind x0 => .rewind (G.unroll1 f x0)
  | .map x0 x1 => .map x0 (G.unroll1 f x1)
  | .to x0 x1 => .to x0 (G.unroll1 f x1)
  | .ignored x0 => .ignored (G.unroll1 f x0)
  | .filter x0 x1 => .filter x0 (G.unroll1 f x1)
  | .tryMap x0 x1 => .tryMap x0 (G.unroll1 f x1)
  | .tryMapWith x0 x1 => .tryMapWith x0 (G.unroll1 f x1)
  | .toSpan x0 => .toSpan (G.unroll1 f x0)
  | .toSlice x0 => .toSlice (G.unroll1 f x0)
  | .mapWithSpan x0 => .mapWithSpan (G.unroll1 f x0)
  | .mapWithState x0 => .mapWithState (G.unroll1 f x0)
  | .mapWithCtx x0 => .mapWithCtx (G.unroll1 f x0)
  | .validate x0 x1 => .validate x0 (G.unroll1 f x1)
  | .collect x0 x1 => .collect x0 (It.unroll1 f x1)
  | .collectExactly x0 x1 => .collectExactly x0 (It.unroll1 f x1)
  | .foldl x0 x1 x2 => .foldl x0 (G.unroll1 f x1) (It.unroll1 f x2)
  | .foldr x0 x1 x2 => .foldr x0 (It.unroll1 f x1) (G.unroll1 f x2)
  | .foldlWith x0 x1 => .foldlWith (G.unroll1 f x0) (It.unroll1 f x1)
  | .foldrWith x0 x1 => .foldrWith (It.unroll1 f x0) (G.unroll1 f x1)
  | .iterP x0 => .iterP (It.unroll1 f x0)
  | .recoverVia x0 x1 => .recoverVia (G.unroll1 f x0) (G.unroll1 f x1)
  | .recoverSkipUntil x0 x1 x2 x3 => .recoverSkipUntil (G.unroll1 f x0) (G.unroll1 f x1) (G.unroll1 f x2) x3
  | .recoverSkipRetry x0 x1 x2 => .recoverSkipRetry (G.unroll1 f x0) (G.unroll1 f x1) (G.unroll1 f x2)
  | .labelled x0 x1 x2 => .labelled x0 x1 (G.unroll1 f x2)
  | .mapErr x0 x1 => .mapErr x0 (G.unroll1 f x1)
  | .withCtx x0 x1 => .withCtx x0 (G.unroll1 f x1)
  | .ignoreWithCtx x0 x1 => .ignoreWithCtx (G.unroll1 f x0) (G.unroll1 f x1)
  | .thenWithCtx x0 x1 => .thenWithCtx (G.unroll1 f x0) (G.unroll1 f x1)
  | .mapCtx x0 x1 => .mapCtx x0 (G.unroll1 f x1)
  | .configureJust x0 x1 => .configureJust x0 x1
  | .withState x0 => .withState (G.unroll1 f x0)
  | .memoized x0 x1 => .memoized x0 (G.unroll1 f x1)
  | .call k => f k
  | .boxed x0 => .boxed (G.unroll1 f x0)
def It.unroll1 (f : Nat → G) : It → It
  | .repeated x0 x1 x2 => .repeated (G.unroll1 f x0) x1 x2
  | .separatedBy x0 x1 x2 x3 x4 x5 => .separatedBy (G.unroll1 f x0) (G.unroll1 f x1) x2 x3 x4 x5
  | .enumerate x0 => .enumerate (It.unroll1 f x0)
  | .orNotIt x0 => .orNotIt (G.unroll1 f x0)
  | .intoIter x0 => .intoIter (G.unroll1 f x0)
  | .thenIt x0 x1 => .thenIt (It.unroll1 f x0) (It.unroll1 f x1)
  | .mapIt x0 x1 => .mapIt x0 (It.unroll1 f x1)
  | .configureRep x0 x1 => .configureRep x0 (It.unroll1 f x1)
  | .tryConfigureRep x0 x1 => .tryConfigureRep x0 (It.unroll1 f x1)
def unroll1L (f : Nat → G) : List G → List G
  | [] => []
  | g :: gs => G.unroll1 f g :: unroll1L f gs
end

def unrollD (defs : List G) : Nat → Nat → G
  | 0, _ => .todo
  | d + 1, k =>
    match defs[k]? with
    | some b => .boxed (G.unroll1 (unrollD defs d) b)
    | none => .call k

def G.unroll (defs : List G) (d : Nat) (g : G) : G := G.unroll1 (unrollD defs d) g
def It.unroll (defs : List G) (d : Nat) (it : It) : It := It.unroll1 (unrollD defs d) it
def unrollL (defs : List G) (d : Nat) (gs : List G) : List G := unroll1L (unrollD defs d) gs

def Env.withDefs (env : Env) (ds : List G) : Env := { env with defs := ds }

section envLemmas
variable (env : Env) (ds : List G)
@[simp] theorem Env.withDefs_ek : (env.withDefs ds).ek = env.ek := rfl
@[simp] theorem Env.withDefs_memoOn : (env.withDefs ds).memoOn = env.memoOn := rfl
@[simp] theorem Env.withDefs_defs : (env.withDefs ds).defs = ds := rfl
@[simp] theorem Env.withDefs_toks : (env.withDefs ds).toks = env.toks := rfl
@[simp] theorem Env.withDefs_mkSpan : (env.withDefs ds).mkSpan = env.mkSpan := rfl
@[simp] theorem Env.withDefs_off : (env.withDefs ds).off = env.off := rfl
@[simp] theorem St.next_withDefs : St.next (env.withDefs ds) = St.next env := rfl
@[simp] theorem St.peek_withDefs : St.peek (env.withDefs ds) = St.peek env := rfl
@[simp] theorem St.addAlt_withDefs : St.addAlt (env.withDefs ds) = St.addAlt env := rfl
@[simp] theorem St.addAltErr_withDefs : St.addAltErr (env.withDefs ds) = St.addAltErr env := rfl
@[simp] theorem St.readdAlt_withDefs : St.readdAlt (env.withDefs ds) = St.readdAlt env := rfl
@[simp] theorem tokenPrim_withDefs : tokenPrim (env.withDefs ds) = tokenPrim env := rfl
@[simp] theorem runCustom_withDefs : runCustom (env.withDefs ds) = runCustom env := rfl
@[simp] theorem ctxSecondary_withDefs : ctxSecondary (env.withDefs ds) = ctxSecondary env := rfl
@[simp] theorem justRun_withDefs : ∀ (ts : List Nat) (st : St), justRun (env.withDefs ds) ts st = justRun env ts st
  | [], st => rfl
  | e :: es, st => by
    simp only [justRun, St.next_withDefs, Env.withDefs_mkSpan, St.addAlt_withDefs, justRun_withDefs es]
end envLemmas

def USimR (f : Nat → G) (env : Env) (ds : List G) (R R' : Runner) : Prop :=
  ∀ m g st, R env m g st = R' (env.withDefs ds) m (G.unroll1 f g) st
def USimN (f : Nat → G) (env : Env) (ds : List G) (N N' : NextRunner) : Prop :=
  ∀ m it st ist, N env m it st ist = N' (env.withDefs ds) m (It.unroll1 f it) st ist
def USimK (f : Nat → G) (env : Env) (ds : List G) (K K' : MkRunner) : Prop :=
  ∀ m it st, K env m it st = K' (env.withDefs ds) m (It.unroll1 f it) st

theorem congrArg₂ {α β γ : Sort _} (f : α → β → γ) {a a' : α} {b b' : β} (ha : a = a') (hb : b = b') :
    f a b = f a' b' := by
  subst ha hb; rfl

@[simp] theorem It.nonconsOk_unroll1 (f : Nat → G) : ∀ it : It, (It.unroll1 f it).nonconsOk = it.nonconsOk
  | .repeated .. | .separatedBy .. | .orNotIt _ | .intoIter _ => rfl
  | .enumerate it | .mapIt _ it | .configureRep _ it | .tryConfigureRep _ it => It.nonconsOk_unroll1 f it
  | .thenIt a b => congrArg₂ and (It.nonconsOk_unroll1 f a) (It.nonconsOk_unroll1 f b)

/-! The right-hand sides below are left folded: `G.unroll1 f (c a b)` unfolds to `c (G.unroll1 f a) (G.unroll1 f b)` and
    every field of `env.withDefs ds` other than `defs` to that of `env`, so after the left side has been rewritten with
    the hypotheses about the runners the two sides agree by `rfl`. -/

section loops
variable {f : Nat → G} {env : Env} {ds : List G} {R R' : Runner} {N N' : NextRunner} {K K' : MkRunner}

theorem choiceTuple_unroll (hR : USimR f env ds R R') (m : Mode) (c : Chk) : ∀ (gs : List G) (st : St),
    choiceTuple R env m c gs st = choiceTuple R' (env.withDefs ds) m c (unroll1L f gs) st
  | [], st => rfl
  | g :: gs, st => by
    simp only [choiceTuple, hR m g st, choiceTuple_unroll hR m c gs]; rfl

theorem choiceSlice_unroll (hR : USimR f env ds R R') (m : Mode) (c : Chk) : ∀ (gs : List G) (st : St),
    choiceSlice R env m c gs st = choiceSlice R' (env.withDefs ds) m c (unroll1L f gs) st
  | [], st => rfl
  | g :: gs, st => by
    simp only [choiceSlice, hR m g, choiceSlice_unroll hR m c gs]; rfl

theorem groupLoop_unroll (hR : USimR f env ds R R') (m : Mode) : ∀ (gs : List G) (st : St) (acc : List Val),
    groupLoop R env m gs st acc = groupLoop R' (env.withDefs ds) m (unroll1L f gs) st acc
  | [], st, acc => rfl
  | g :: gs, st, acc => by
    simp only [groupLoop, hR m g, groupLoop_unroll hR m gs]; rfl

theorem collectLoop_unroll (hN : USimN f env ds N N') (m : Mode) (it : It) (k : CollKind) :
    ∀ (fuel : Nat) (st : St) (ist : ItSt) (acc : List Val) (i : Nat),
    collectLoop N env m it k fuel st ist acc i = collectLoop N' (env.withDefs ds) m (It.unroll1 f it) k fuel st ist acc i
  | 0, _, _, _, _ => rfl
  | fuel + 1, st, ist, acc, i => by
    simp only [collectLoop, hN m it, It.nonconsOk_unroll1, collectLoop_unroll hN m it k fuel]

theorem collectExactlyLoop_unroll (hN : USimN f env ds N N') (m : Mode) (it : It) :
    ∀ (n : Nat) (st : St) (ist : ItSt) (acc : List Val),
    collectExactlyLoop N env m it n st ist acc = collectExactlyLoop N' (env.withDefs ds) m (It.unroll1 f it) n st ist acc
  | 0, _, _, _ => rfl
  | n + 1, st, ist, acc => by
    simp only [collectExactlyLoop, hN m it, collectExactlyLoop_unroll hN m it n, St.addAlt_withDefs,
      St.peek_withDefs, Env.withDefs_mkSpan]

theorem foldlLoop_unroll (hN : USimN f env ds N N') (m : Mode) (it : It) (fn : Val → Val → St → Val) :
    ∀ (fuel : Nat) (st : St) (ist : ItSt) (acc : Val),
    foldlLoop N env m it fn fuel st ist acc = foldlLoop N' (env.withDefs ds) m (It.unroll1 f it) fn fuel st ist acc
  | 0, _, _, _ => rfl
  | fuel + 1, st, ist, acc => by
    simp only [foldlLoop, hN m it, It.nonconsOk_unroll1, foldlLoop_unroll hN m it fn fuel]

theorem foldrCollect_unroll (hN : USimN f env ds N N') (m : Mode) (it : It) :
    ∀ (fuel : Nat) (st : St) (ist : ItSt) (acc : List (Val × Nat)),
    foldrCollect N env m it fuel st ist acc = foldrCollect N' (env.withDefs ds) m (It.unroll1 f it) fuel st ist acc
  | 0, _, _, _ => rfl
  | fuel + 1, st, ist, acc => by
    simp only [foldrCollect, hN m it, It.nonconsOk_unroll1, foldrCollect_unroll hN m it fuel]

theorem repeatFast_unroll (hR : USimR f env ds R R') (a : G) : ∀ (fuel : Nat) (st : St),
    repeatFast R env a fuel st = repeatFast R' (env.withDefs ds) (G.unroll1 f a) fuel st
  | 0, _ => rfl
  | fuel + 1, st => by
    simp only [repeatFast, hR .check a, repeatFast_unroll hR a fuel]

theorem iterLoop_unroll (hN : USimN f env ds N N') (it : It) (ap : Bool) : ∀ (fuel : Nat) (st : St) (ist : ItSt),
    iterLoop N env it ap fuel st ist = iterLoop N' (env.withDefs ds) (It.unroll1 f it) ap fuel st ist
  | 0, _, _ => rfl
  | fuel + 1, st, ist => by
    simp only [iterLoop, hN .check it, iterLoop_unroll hN it ap fuel]

theorem skipUntilLoop_unroll (hR : USimR f env ds R R') (m : Mode) (skip until_ : G) (fb : Val) (alt : Loc) :
    ∀ (fuel : Nat) (st : St),
    skipUntilLoop R env m skip until_ fb alt fuel st
      = skipUntilLoop R' (env.withDefs ds) m (G.unroll1 f skip) (G.unroll1 f until_) fb alt fuel st
  | 0, _ => rfl
  | fuel + 1, st => by
    simp only [skipUntilLoop, hR .check until_, hR .check skip, skipUntilLoop_unroll hR m skip until_ fb alt fuel]

theorem skipRetryLoop_unroll (hR : USimR f env ds R R') (m : Mode) (a skip until_ : G) (alt : Loc) :
    ∀ (fuel : Nat) (st : St),
    skipRetryLoop R env m a skip until_ alt fuel st
      = skipRetryLoop R' (env.withDefs ds) m (G.unroll1 f a) (G.unroll1 f skip) (G.unroll1 f until_) alt fuel st
  | 0, _ => rfl
  | fuel + 1, st => by
    simp only [skipRetryLoop, hR .check until_, hR .check skip, hR m a, skipRetryLoop_unroll hR m a skip until_ alt fuel]

theorem repeatedNext_unroll (hR : USimR f env ds R R') (m : Mode) (a : G) (lo : Nat) (hi : Option Nat) (st : St) (n : Nat)
    (wrap : ItSt → ItSt) :
    repeatedNext R env m a lo hi st n wrap = repeatedNext R' (env.withDefs ds) m (G.unroll1 f a) lo hi st n wrap := by
  simp only [repeatedNext, hR m a]

theorem separatedNext_unroll (hR : USimR f env ds R R') (m : Mode) (a sep : G) (lo : Nat) (hi : Option Nat)
    (lead trail : Bool) (st : St) (n : Nat) :
    separatedNext R env m a sep lo hi lead trail st n
      = separatedNext R' (env.withDefs ds) m (G.unroll1 f a) (G.unroll1 f sep) lo hi lead trail st n := by
  simp only [separatedNext, hR m a, hR .check sep]

end loops

section steps
variable {f : Nat → G} {env : Env} {ds : List G} {R R' : Runner} {N N' : NextRunner} {K K' : MkRunner}

/-- one step; what `call k` and its replacement `f k` do is left to the caller -/
theorem step_unroll (hR : USimR f env ds R R') (hN : USimN f env ds N N') (hK : USimK f env ds K K') (L : Nat)
    (m : Mode) (g : G) (st : St)
    (hcall : ∀ k, step R N K L env m (.call k) st = step R' N' K' L (env.withDefs ds) m (f k) st) :
    step R N K L env m g st = step R' N' K' L (env.withDefs ds) m (G.unroll1 f g) st := by
  cases g with
  | call k => exact hcall k
  | end_ | empty | any | oneOf _ | noneOf _ | select _ | custom _ | todo => rfl
  | just ts => simp only [step_just, ← justRun_withDefs env ds]; rfl
  | configureJust c ts => simp only [step_configureJust, ← justRun_withDefs env ds]; rfl
  | or_ a b => exact choiceTuple_unroll hR m _ [a, b] st
  | choice fl gs =>
    cases fl with
    | tuple =>
      match gs with
      | [] => rfl
      | [g] => exact hR m g st
      | g :: g' :: gs => exact choiceTuple_unroll hR m _ (g :: g' :: gs) st
    | slice =>
      match gs with
      | [] => rfl
      | g :: gs => exact choiceSlice_unroll hR m _ (g :: gs) st
  | group gs | groupArr gs => exact groupLoop_unroll hR m gs st []
  | collect k it =>
    simp only [step_collect, hK _ _, collectLoop_unroll hN]; rfl
  | collectExactly n it =>
    simp only [step_collectExactly, hK _ _, collectExactlyLoop_unroll hN]; rfl
  | foldl fn a it =>
    simp only [step_foldl, hR _ _, hK _ _, foldlLoop_unroll hN]; rfl
  | foldlWith a it =>
    simp only [step_foldlWith, hR _ _, hK _ _, foldlLoop_unroll hN]; rfl
  | foldr fn it b =>
    simp only [step_foldr, hR _ _, hK _ _, foldrCollect_unroll hN]; rfl
  | foldrWith it b =>
    simp only [step_foldrWith, hR _ _, hK _ _, foldrCollect_unroll hN]; rfl
  | iterP it =>
    cases it with
    | repeated a lo hi =>
      cases lo with
      | zero =>
        cases hi with
        | none => exact repeatFast_unroll hR a L st
        | some h => simp only [step_iterP, hK _ _, iterLoop_unroll hN]; rfl
      | succ lo => simp only [step_iterP, hK _ _, iterLoop_unroll hN]; rfl
    | separatedBy a sep lo hi lead trail | configureRep c inner | tryConfigureRep c inner =>
      simp only [step_iterP, hK _ _, iterLoop_unroll hN]; rfl
    | intoIter a => simp only [step_iterP, hR _ _]; rfl
    | _ => rfl
  | recoverSkipUntil a skip until_ fb =>
    simp only [step_recoverSkipUntil, hR _ _, skipUntilLoop_unroll hR]; rfl
  | recoverSkipRetry a skip until_ =>
    simp only [step_recoverSkipRetry, hR _ _, skipRetryLoop_unroll hR]; rfl
  | not_ a => rw [step_not, hR]; rfl
  | tryMap fn a => rw [step_tryMap, hR]; rfl
  | labelled l asCtx a => rw [step_labelled, hR]; rfl
  | mapErr k a => rw [step_mapErr, hR]; rfl
  | boxed a => exact hR m a st
  | _ => simp only [step_eqs, hR _ _]; rfl

theorem stepMk_unroll (hR : USimR f env ds R R') (hK : USimK f env ds K K') :
    USimK f env ds (stepMk R K) (stepMk R' K') := by
  intro m it st
  cases it with
  | repeated _ _ _ | separatedBy _ _ _ _ _ _ | orNotIt _ => rfl
  | enumerate inner | thenIt inner _ | configureRep _ inner | tryConfigureRep _ inner => rw [stepMk, hK]; rfl
  | mapIt _ inner => exact hK m inner st
  | intoIter a => rw [stepMk, hR]; rfl

theorem stepNext_unroll (hR : USimR f env ds R R') (hN : USimN f env ds N N') (hK : USimK f env ds K K') :
    USimN f env ds (stepNext R N K) (stepNext R' N' K') := by
  intro m it st ist
  cases it with
  | repeated a lo hi =>
    cases ist with
    | cnt n => exact repeatedNext_unroll hR m a lo hi st n id
    | _ => rfl
  | separatedBy a sep lo hi lead trail =>
    cases ist with
    | cnt n => exact separatedNext_unroll hR m a sep lo hi lead trail st n
    | _ => rfl
  | enumerate inner =>
    cases ist with
    | enum k si => simp only [stepNext_enumerate, hN _ _]; rfl
    | _ => rfl
  | orNotIt a =>
    cases ist with
    | fin b => simp only [stepNext_orNotIt, hR _ _]; rfl
    | _ => rfl
  | intoIter a =>
    cases ist with
    | into vs => cases vs <;> rfl
    | _ => rfl
  | thenIt x y =>
    cases ist with
    | thn sa sb? =>
      cases sb? with
      | some sb => simp only [stepNext_thenIt_some, hN _ _]; rfl
      | none => simp only [stepNext_thenIt_none, hN _ _, hK _ _]; rfl
    | _ => rfl
  | mapIt fn inner => simp only [stepNext_mapIt, hN _ _]; rfl
  | configureRep c inner | tryConfigureRep c inner =>
    cases inner with
    | repeated a lo hi =>
      cases ist with
      | cfg si clo chi =>
        cases si with
        | cnt n => exact repeatedNext_unroll hR m a (clo.getD lo) _ st n fun s => .cfg s clo chi
        | _ => rfl
      | _ => rfl
    | _ => rfl
end steps

/-- `ds` is not longer than `env.defs`, so that an undefined `call k` is undefined on both sides. -/
theorem run_unroll_all (env : Env) (ds : List G) (hds : ds.length ≤ env.defs.length) : ∀ (n d : Nat), n ≤ d →
    USimR (unrollD env.defs d) env ds (run n) (run n) ∧ USimN (unrollD env.defs d) env ds (next n) (next n) ∧
      USimK (unrollD env.defs d) env ds (mkIter n) (mkIter n) := by
  intro n
  induction n with
  | zero => intro d _; exact ⟨fun _ _ _ => rfl, fun _ _ _ _ => rfl, fun _ _ _ => rfl⟩
  | succ n ih =>
    intro d hd
    obtain ⟨hR, hN, hK⟩ := ih d (Nat.le_of_succ_le hd)
    refine ⟨?_, stepNext_unroll hR hN hK, stepMk_unroll hR hK⟩
    intro m g st
    refine step_unroll hR hN hK n m g st fun k => ?_
    -- `call k` against `unrollD env.defs d k`: one level of the definition, or the same panic
    obtain ⟨d', rfl⟩ : ∃ d', d = d' + 1 := ⟨d - 1, by omega⟩
    rw [step_call, unrollD]
    cases hk : env.defs[k]? with
    | some b => exact (ih d' (by omega)).1 m b st
    | none =>
      have : ds[k]? = none := by
        rw [List.getElem?_eq_none_iff] at hk ⊢; omega
      rw [step_call, Env.withDefs_defs, this]

/-- **C12.** Running `g` with the definition table `env.defs` at fuel `n` is running the grammar in which every
    reference is expanded `d ≥ n` levels deep, with an empty definition table: same outcome, value and state. -/
theorem run_unroll {n d : Nat} (h : d ≥ n) (env : Env) (m : Mode) (g : G) (st : St) :
    run n env m g st = run n { env with defs := [] } m (g.unroll env.defs d) st :=
  (run_unroll_all env [] (Nat.zero_le _) n d h).1 m g st

theorem next_unroll {n d : Nat} (h : d ≥ n) (env : Env) (m : Mode) (it : It) (st : St) (ist : ItSt) :
    next n env m it st ist = next n { env with defs := [] } m (it.unroll env.defs d) st ist :=
  (run_unroll_all env [] (Nat.zero_le _) n d h).2.1 m it st ist

theorem mkIter_unroll {n d : Nat} (h : d ≥ n) (env : Env) (m : Mode) (it : It) (st : St) :
    mkIter n env m it st = mkIter n { env with defs := [] } m (it.unroll env.defs d) st :=
  (run_unroll_all env [] (Nat.zero_le _) n d h).2.2 m it st

theorem run_unroll_defs {n d : Nat} (h : d ≥ n) (env : Env) (ds : List G) (hds : ds.length ≤ env.defs.length)
    (m : Mode) (g : G) (st : St) :
    run n env m g st = run n { env with defs := ds } m (g.unroll env.defs d) st :=
  (run_unroll_all env ds hds n d h).1 m g st

theorem parseTop_unroll (n : Nat) (env : Env) (m : Mode) (g : G) :
    parseTop n env m g = parseTop n { env with defs := [] } m (g.unroll env.defs n) := by
  unfold parseTop
  rw [run_unroll (Nat.le_refl n) env m (.thenIgnore g .end_) St.init]
  rfl

mutual
/-- every `call k` in the grammar has `k < n` -/
def G.callsBelow (n : Nat) : G → Bool
  | .end_ => true
  | .empty => true
  | .any => true
  | .just x0 => true
  | .oneOf x0 => true
  | .noneOf x0 => true
  | .select x0 => true
  | .custom x0 => true
  | .todo => true
  | .then_ x0 x1 => G.callsBelow n x0 && G.callsBelow n x1
  | .ignoreThen x0 x1 => G.callsBelow n x0 && G.callsBelow n x1
  | .thenIgnore x0 x1 => G.callsBelow n x0 && G.callsBelow n x1
  | .delimitedBy x0 x1 x2 => G.callsBelow n x0 && G.callsBelow n x1 && G.callsBelow n x2
  | .paddedBy x0 x1 => G.callsBelow n x0 && G.callsBelow n x1
  | .group x0 => callsBelowL n x0
  | .groupArr x0 => callsBelowL n x0
  | .or_ x0 x1 => G.callsBelow n x0 && G.callsBelow n x1
  | .choice x0 x1 => callsBelowL n x1
  | .orNot x0 => G.callsBelow n x0
  | .not_ x0 => G.callsBelow n x0
  | .andIs x0 x1 => G.callsBelow n x0 && G.callsBelow n x1
  | .rewind x0 => G.callsBelow n x0
  | .map x0 x1 => G.callsBelow n x1
  | .to x0 x1 => G.callsBelow n x1
  | .ignored x0 => G.callsBelow n x0
  | .filter x0 x1 => G.callsBelow n x1
  | .tryMap x0 x1 => G.callsBelow n x1
  | .tryMapWith x0 x1 => G.callsBelow n x1
  | .toSpan x0 => G.callsBelow n x0
  | .toSlice x0 => G.callsBelow n x0
  | .mapWithSpan x0 => G.callsBelow n x0
  | .mapWithState x0 => G.callsBelow n x0
  | .mapWithCtx x0 => G.callsBelow n x0
  | .validate x0 x1 => G.callsBelow n x1
  | .collect x0 x1 => It.callsBelow n x1
  | .collectExactly x0 x1 => It.callsBelow n x1
  | .foldl x0 x1 x2 => G.callsBelow n x1 && It.callsBelow n x2
  | .foldr x0 x1 x2 => It.callsBelow n x1 && G.callsBelow n x2
  | .foldlWith x0 x1 => G.callsBelow n x0 && It.callsBelow n x1
  | .foldrWith x0 x1 => It.callsBelow n x0 && G.callsBelow n x1
  | .iterP x0 => It.callsBelow n x0
  | .recoverVia x0 x1 => G.callsBelow n x0 && G.callsBelow n x1
  | .recoverSkipUntil x0 x1 x2 x3 => G.callsBelow n x0 && G.callsBelow n x1 && G.callsBelow n x2
  | .recoverSkipRetry x0 x1 x2 => G.callsBelow n x0 && G.callsBelow n x1 && G.callsBelow n x2
  | .labelled x0 x1 x2 => G.callsBelow n x2
  | .mapErr x0 x1 => G.callsBelow n x1
  | .withCtx x0 x1 => G.callsBelow n x1
  | .ignoreWithCtx x0 x1 => G.callsBelow n x0 && G.callsBelow n x1
  | .thenWithCtx x0 x1 => G.callsBelow n x0 && G.callsBelow n x1
  | .mapCtx x0 x1 => G.callsBelow n x1
  | .configureJust x0 x1 => true
  | .withState x0 => G.callsBelow n x0
  | .memoized x0 x1 => G.callsBelow n x1
  | .call k => decide (k < n)
  | .boxed x0 => G.callsBelow n x0
def It.callsBelow (n : Nat) : It → Bool
  | .repeated x0 x1 x2 => G.callsBelow n x0
  | .separatedBy x0 x1 x2 x3 x4 x5 => G.callsBelow n x0 && G.callsBelow n x1
  | .enumerate x0 => It.callsBelow n x0
  | .orNotIt x0 => G.callsBelow n x0
  | .intoIter x0 => G.callsBelow n x0
  | .thenIt x0 x1 => It.callsBelow n x0 && It.callsBelow n x1
  | .mapIt x0 x1 => It.callsBelow n x1
  | .configureRep x0 x1 => It.callsBelow n x1
  | .tryConfigureRep x0 x1 => It.callsBelow n x1
def callsBelowL (n : Nat) : List G → Bool
  | [] => true
  | g :: gs => G.callsBelow n g && callsBelowL n gs
end

abbrev G.callFree (g : G) : Bool := g.callsBelow 0

/-! `G.callsBelow n (c a b)` unfolds to `a.callsBelow n && b.callsBelow n` and `G.unroll1 f (c a b)` to
    `c (G.unroll1 f a) (G.unroll1 f b)`; constructors of the same shape share an alternative. -/

mutual
theorem G.unroll1_callsBelow (f : Nat → G) (n n' : Nat) (hf : ∀ k, k < n' → (f k).callsBelow n = true) :
    ∀ g : G, g.callsBelow n' = true → (G.unroll1 f g).callsBelow n = true
  | .end_ | .empty | .any | .just _ | .oneOf _ | .noneOf _ | .select _ | .custom _ | .todo | .configureJust _ _ =>
    fun _ => rfl
  | .call k => fun h => hf k (of_decide_eq_true h)
  | .orNot a | .not_ a | .rewind a | .map _ a | .to _ a | .ignored a | .filter _ a | .tryMap _ a | .tryMapWith _ a
  | .toSpan a | .toSlice a | .mapWithSpan a | .mapWithState a | .mapWithCtx a | .validate _ a | .labelled _ _ a
  | .mapErr _ a | .withCtx _ a | .mapCtx _ a | .withState a | .memoized _ a | .boxed a =>
    fun h => G.unroll1_callsBelow f n n' hf a h
  | .then_ a b | .ignoreThen a b | .thenIgnore a b | .paddedBy a b | .or_ a b | .andIs a b | .recoverVia a b
  | .ignoreWithCtx a b | .thenWithCtx a b =>
    fun h =>
      have ⟨ha, hb⟩ := Bool.and_eq_true_iff.mp h
      Bool.and_eq_true_iff.mpr ⟨G.unroll1_callsBelow f n n' hf a ha, G.unroll1_callsBelow f n n' hf b hb⟩
  | .delimitedBy a b c | .recoverSkipUntil a b c _ | .recoverSkipRetry a b c =>
    fun h =>
      have ⟨hab, hc⟩ := Bool.and_eq_true_iff.mp h
      have ⟨ha, hb⟩ := Bool.and_eq_true_iff.mp hab
      Bool.and_eq_true_iff.mpr ⟨Bool.and_eq_true_iff.mpr
        ⟨G.unroll1_callsBelow f n n' hf a ha, G.unroll1_callsBelow f n n' hf b hb⟩, G.unroll1_callsBelow f n n' hf c hc⟩
  | .group gs | .groupArr gs | .choice _ gs => fun h => unroll1L_callsBelow f n n' hf gs h
  | .collect _ it | .collectExactly _ it | .iterP it => fun h => It.unroll1_callsBelow f n n' hf it h
  | .foldl _ a it | .foldlWith a it =>
    fun h =>
      have ⟨ha, hit⟩ := Bool.and_eq_true_iff.mp h
      Bool.and_eq_true_iff.mpr ⟨G.unroll1_callsBelow f n n' hf a ha, It.unroll1_callsBelow f n n' hf it hit⟩
  | .foldr _ it a | .foldrWith it a =>
    fun h =>
      have ⟨hit, ha⟩ := Bool.and_eq_true_iff.mp h
      Bool.and_eq_true_iff.mpr ⟨It.unroll1_callsBelow f n n' hf it hit, G.unroll1_callsBelow f n n' hf a ha⟩
theorem It.unroll1_callsBelow (f : Nat → G) (n n' : Nat) (hf : ∀ k, k < n' → (f k).callsBelow n = true) :
    ∀ it : It, it.callsBelow n' = true → (It.unroll1 f it).callsBelow n = true
  | .repeated a _ _ | .orNotIt a | .intoIter a => fun h => G.unroll1_callsBelow f n n' hf a h
  | .separatedBy a b _ _ _ _ =>
    fun h =>
      have ⟨ha, hb⟩ := Bool.and_eq_true_iff.mp h
      Bool.and_eq_true_iff.mpr ⟨G.unroll1_callsBelow f n n' hf a ha, G.unroll1_callsBelow f n n' hf b hb⟩
  | .enumerate it | .mapIt _ it | .configureRep _ it | .tryConfigureRep _ it =>
    fun h => It.unroll1_callsBelow f n n' hf it h
  | .thenIt a b =>
    fun h =>
      have ⟨ha, hb⟩ := Bool.and_eq_true_iff.mp h
      Bool.and_eq_true_iff.mpr ⟨It.unroll1_callsBelow f n n' hf a ha, It.unroll1_callsBelow f n n' hf b hb⟩
theorem unroll1L_callsBelow (f : Nat → G) (n n' : Nat) (hf : ∀ k, k < n' → (f k).callsBelow n = true) :
    ∀ gs : List G, callsBelowL n' gs = true → callsBelowL n (unroll1L f gs) = true
  | [] => fun _ => rfl
  | g :: gs => fun h =>
    have ⟨hg, hgs⟩ := Bool.and_eq_true_iff.mp h
    Bool.and_eq_true_iff.mpr ⟨G.unroll1_callsBelow f n n' hf g hg, unroll1L_callsBelow f n n' hf gs hgs⟩
end

theorem congrArg₃ {α β γ δ : Sort _} (f : α → β → γ → δ) {a a' : α} {b b' : β} {c c' : γ}
    (ha : a = a') (hb : b = b') (hc : c = c') : f a b c = f a' b' c' := by
  subst ha hb hc; rfl

mutual
theorem G.unroll1_callFree (f : Nat → G) : ∀ g : G, g.callsBelow 0 = true → G.unroll1 f g = g
  | .end_ | .empty | .any | .just _ | .oneOf _ | .noneOf _ | .select _ | .custom _ | .todo | .configureJust _ _ =>
    fun _ => rfl
  | .call k => fun h => absurd (of_decide_eq_true h) (Nat.not_lt_zero k)
  | .orNot a | .not_ a | .rewind a | .map _ a | .to _ a | .ignored a | .filter _ a | .tryMap _ a | .tryMapWith _ a
  | .toSpan a | .toSlice a | .mapWithSpan a | .mapWithState a | .mapWithCtx a | .validate _ a | .labelled _ _ a
  | .mapErr _ a | .withCtx _ a | .mapCtx _ a | .withState a | .memoized _ a | .boxed a =>
    fun h => congrArg _ (G.unroll1_callFree f a h)
  | .then_ a b | .ignoreThen a b | .thenIgnore a b | .paddedBy a b | .or_ a b | .andIs a b | .recoverVia a b
  | .ignoreWithCtx a b | .thenWithCtx a b =>
    fun h =>
      have ⟨ha, hb⟩ := Bool.and_eq_true_iff.mp h
      congrArg₂ _ (G.unroll1_callFree f a ha) (G.unroll1_callFree f b hb)
  | .delimitedBy a b c | .recoverSkipRetry a b c =>
    fun h =>
      have ⟨hab, hc⟩ := Bool.and_eq_true_iff.mp h
      have ⟨ha, hb⟩ := Bool.and_eq_true_iff.mp hab
      congrArg₃ _ (G.unroll1_callFree f a ha) (G.unroll1_callFree f b hb) (G.unroll1_callFree f c hc)
  | .recoverSkipUntil a b c fb =>
    fun h =>
      have ⟨hab, hc⟩ := Bool.and_eq_true_iff.mp h
      have ⟨ha, hb⟩ := Bool.and_eq_true_iff.mp hab
      congrArg₃ (G.recoverSkipUntil · · · fb) (G.unroll1_callFree f a ha) (G.unroll1_callFree f b hb)
        (G.unroll1_callFree f c hc)
  | .group gs | .groupArr gs | .choice _ gs => fun h => congrArg _ (unroll1L_callFree f gs h)
  | .collect _ it | .collectExactly _ it | .iterP it => fun h => congrArg _ (It.unroll1_callFree f it h)
  | .foldl _ a it | .foldlWith a it =>
    fun h =>
      have ⟨ha, hit⟩ := Bool.and_eq_true_iff.mp h
      congrArg₂ _ (G.unroll1_callFree f a ha) (It.unroll1_callFree f it hit)
  | .foldr _ it a | .foldrWith it a =>
    fun h =>
      have ⟨hit, ha⟩ := Bool.and_eq_true_iff.mp h
      congrArg₂ _ (It.unroll1_callFree f it hit) (G.unroll1_callFree f a ha)
theorem It.unroll1_callFree (f : Nat → G) : ∀ it : It, it.callsBelow 0 = true → It.unroll1 f it = it
  | .repeated a lo hi => fun h => congrArg (It.repeated · lo hi) (G.unroll1_callFree f a h)
  | .orNotIt a | .intoIter a => fun h => congrArg _ (G.unroll1_callFree f a h)
  | .separatedBy a b lo hi lead trail =>
    fun h =>
      have ⟨ha, hb⟩ := Bool.and_eq_true_iff.mp h
      congrArg₂ (It.separatedBy · · lo hi lead trail) (G.unroll1_callFree f a ha) (G.unroll1_callFree f b hb)
  | .enumerate it | .mapIt _ it | .configureRep _ it | .tryConfigureRep _ it =>
    fun h => congrArg _ (It.unroll1_callFree f it h)
  | .thenIt a b =>
    fun h =>
      have ⟨ha, hb⟩ := Bool.and_eq_true_iff.mp h
      congrArg₂ _ (It.unroll1_callFree f a ha) (It.unroll1_callFree f b hb)
theorem unroll1L_callFree (f : Nat → G) : ∀ gs : List G, callsBelowL 0 gs = true → unroll1L f gs = gs
  | [] => fun _ => rfl
  | g :: gs => fun h =>
    have ⟨hg, hgs⟩ := Bool.and_eq_true_iff.mp h
    congrArg₂ _ (G.unroll1_callFree f g hg) (unroll1L_callFree f gs hgs)
end

theorem callsBelowL_getElem (n : Nat) : ∀ (gs : List G) (k : Nat) (b : G), callsBelowL n gs = true → gs[k]? = some b →
    b.callsBelow n = true
  | [], k, b, _, h => by simp at h
  | g :: gs, 0, b, hc, h => Option.some.inj h ▸ (Bool.and_eq_true_iff.mp hc).1
  | g :: gs, k + 1, b, hc, h => callsBelowL_getElem n gs k b (Bool.and_eq_true_iff.mp hc).2 h

/-- a closed definition table (`callsBelowL defs.length defs`): every expanded definition is call-free -/
theorem unrollD_callFree (defs : List G) (hd : callsBelowL defs.length defs = true) :
    ∀ (d k : Nat), k < defs.length → (unrollD defs d k).callFree = true
  | 0, k, _ => rfl
  | d + 1, k, hk => by
    have hb : defs[k]? = some defs[k] := List.getElem?_eq_getElem hk
    rw [unrollD, hb]
    exact G.unroll1_callsBelow _ 0 defs.length (unrollD_callFree defs hd d) _ (callsBelowL_getElem _ _ _ _ hd hb)

theorem G.unroll_callFree (defs : List G) (hd : callsBelowL defs.length defs = true) (d : Nat) (g : G)
    (hg : g.callsBelow defs.length = true) : (g.unroll defs d).callFree = true :=
  G.unroll1_callsBelow _ 0 defs.length (unrollD_callFree defs hd d) g hg

theorem It.unroll_callFree (defs : List G) (hd : callsBelowL defs.length defs = true) (d : Nat) (it : It)
    (hg : it.callsBelow defs.length = true) : (it.unroll defs d).callsBelow 0 = true :=
  It.unroll1_callsBelow _ 0 defs.length (unrollD_callFree defs hd d) it hg

theorem run_callFree_defs (n : Nat) (env : Env) (ds : List G) (m : Mode) (g : G) (hg : g.callFree = true) (st : St) :
    run n env m g st = run n { env with defs := ds } m g st := by
  have h1 := (run_unroll_all env [] (Nat.zero_le _) n n (Nat.le_refl _)).1 m g st
  have h2 := (run_unroll_all (env.withDefs ds) [] (Nat.zero_le _) n n (Nat.le_refl _)).1 m g st
  rw [G.unroll1_callFree _ g hg] at h1 h2
  exact h1.trans h2.symm

/-- **C12**, closed form: for a closed definition table the recursive parser is, at every fuel `n`, the call-free
    (finite, non-recursive) grammar obtained by expanding the references `d ≥ n` levels deep — whatever table the
    second run is given. -/
theorem run_unroll_closed {n d : Nat} (h : d ≥ n) (env : Env) (hd : callsBelowL env.defs.length env.defs = true)
    (m : Mode) (g : G) (hg : g.callsBelow env.defs.length = true) (ds : List G) (st : St) :
    (g.unroll env.defs d).callFree = true ∧
      run n env m g st = run n { env with defs := ds } m (g.unroll env.defs d) st :=
  ⟨G.unroll_callFree _ hd d g hg,
   (run_unroll h env m g st).trans
     (run_callFree_defs n { env with defs := [] } ds m _ (G.unroll_callFree _ hd d g hg) st)⟩

/-! ### sanity: `expr := 1 expr | 2` on `1 1 2` -/

section sanity
private def exDefs : List G := [.or_ (.then_ (.just [1]) (.call 0)) (.just [2])]
private def exEnv : Env := { toks := [1, 1, 2], defs := exDefs }

example : (G.call 0).unroll exDefs 1 = .boxed (.or_ (.then_ (.just [1]) .todo) (.just [2])) := rfl
example : (G.call 0).unroll exDefs 2 =
    .boxed (.or_ (.then_ (.just [1]) (.boxed (.or_ (.then_ (.just [1]) .todo) (.just [2])))) (.just [2])) := rfl
example : ((G.call 0).unroll exDefs 5).callFree = true := by decide
end sanity

#print axioms run_unroll
#print axioms next_unroll
#print axioms mkIter_unroll
#print axioms run_unroll_defs
#print axioms parseTop_unroll
#print axioms G.unroll_callFree
#print axioms run_callFree_defs
#print axioms run_unroll_closed
end Chumsky
