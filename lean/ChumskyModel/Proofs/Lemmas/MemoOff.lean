/-
  Proofs/Lemmas/MemoOff.lean — C11, the OFF side: with `memoOn = false` a `memoized` node *is* the identity wrapper.

  `G.stripMemo` replaces every `memoized id a` by `boxed a` (same unit of fuel).  Running a grammar with
  memoization off is, as a plain equality of outcomes and states at every fuel, running the stripped grammar (and
  the stripped definition table) — with memoization off or on, since no `memoized` node is left (`G.stripMemo_memoFree`).
      `run_stripMemo`, `next_stripMemo`, `mkIter_stripMemo`, `parseTop_stripMemo`
  Use: every theorem stated for grammars without `memoized` nodes (e.g. the class `c06` of RunInv / AltInv) applies to the OFF
  run of any grammar; and C11 (ON ≈ OFF, `run_memo_transparent` in MemoFull.lean) can equivalently be read as ON ≈ "no memoization at all".
  Same proof scheme as Unroll.lean (one-step lemmas for runners related by equality on the transformed syntax).
-/
import ChumskyModel.Proofs.Lemmas.StepEqns
set_option linter.unusedVariables false   -- the proofs by recursion over the syntax name every field of every constructor
namespace Chumsky

mutual
/-- replace every `memoized id a` by the identity wrapper `boxed a` (which costs the same unit of fuel) -/
def G.stripMemo : G → G
  | .end_ => .end_
  | .empty => .empty
  | .any => .any
  | .just x0 => .just x0
  | .oneOf x0 => .oneOf x0
  | .noneOf x0 => .noneOf x0
  | .select x0 => .select x0
  | .custom x0 => .custom x0
  | .todo => .todo
  | .then_ x0 x1 => .then_ (G.stripMemo x0) (G.stripMemo x1)
  | .ignoreThen x0 x1 => .ignoreThen (G.stripMemo x0) (G.stripMemo x1)
  | .thenIgnore x0 x1 => .thenIgnore (G.stripMemo x0) (G.stripMemo x1)
  | .delimitedBy x0 x1 x2 => .delimitedBy (G.stripMemo x0) (G.stripMemo x1) (G.stripMemo x2)
  | .paddedBy x0 x1 => .paddedBy (G.stripMemo x0) (G.stripMemo x1)
  | .group x0 => .group (stripMemoL x0)
  | .groupArr x0 => .groupArr (stripMemoL x0)
  | .or_ x0 x1 => .or_ (G.stripMemo x0) (G.stripMemo x1)
  | .choice x0 x1 => .choice x0 (stripMemoL x1)
  | .orNot x0 => .orNot (G.stripMemo x0)
  | .not_ x0 => .not_ (G.stripMemo x0)
  | .andIs x0 x1 => .andIs (G.stripMemo x0) (G.stripMemo x1)
  | .rewind x0 => .rewind (G.stripMemo x0)
  | .map x0 x1 => .map x0 (G.stripMemo x1)
  | .to x0 x1 => .to x0 (G.stripMemo x1)
  | .ignored x0 => .ignored (G.stripMemo x0)
  | .filter x0 x1 => .filter x0 (G.stripMemo x1)
  | .tryMap x0 x1 => .tryMap x0 (G.stripMemo x1)
  | .tryMapWith x0 x1 => .tryMapWith x0 (G.stripMemo x1)
  | .toSpan x0 => .toSpan (G.stripMemo x0)
  | .toSlice x0 => .toSlice (G.stripMemo x0)
  | .mapWithSpan x0 => .mapWithSpan (G.stripMemo x0)
  | .mapWithState x0 => .mapWithState (G.stripMemo x0)
  | .mapWithCtx x0 => .mapWithCtx (G.stripMemo x0)
  | .validate x0 x1 => .validate x0 (G.stripMemo x1)
  | .collect x0 x1 => .collect x0 (It.stripMemo x1)
  | .collectExactly x0 x1 => .collectExactly x0 (It.stripMemo x1)
  | .foldl x0 x1 x2 => .foldl x0 (G.stripMemo x1) (It.stripMemo x2)
  | .foldr x0 x1 x2 => .foldr x0 (It.stripMemo x1) (G.stripMemo x2)
  | .foldlWith x0 x1 => .foldlWith (G.stripMemo x0) (It.stripMemo x1)
  | .foldrWith x0 x1 => .foldrWith (It.stripMemo x0) (G.stripMemo x1)
  | .iterP x0 => .iterP (It.stripMemo x0)
  | .recoverVia x0 x1 => .recoverVia (G.stripMemo x0) (G.stripMemo x1)
  | .recoverSkipUntil x0 x1 x2 x3 => .recoverSkipUntil (G.stripMemo x0) (G.stripMemo x1) (G.stripMemo x2) x3
  | .recoverSkipRetry x0 x1 x2 => .recoverSkipRetry (G.stripMemo x0) (G.stripMemo x1) (G.stripMemo x2)
  | .labelled x0 x1 x2 => .labelled x0 x1 (G.stripMemo x2)
  | .mapErr x0 x1 => .mapErr x0 (G.stripMemo x1)
  | .withCtx x0 x1 => .withCtx x0 (G.stripMemo x1)
  | .ignoreWithCtx x0 x1 => .ignoreWithCtx (G.stripMemo x0) (G.stripMemo x1)
  | .thenWithCtx x0 x1 => .thenWithCtx (G.stripMemo x0) (G.stripMemo x1)
  | .mapCtx x0 x1 => .mapCtx x0 (G.stripMemo x1)
  | .configureJust x0 x1 => .configureJust x0 x1
  | .withState x0 => .withState (G.stripMemo x0)
  | .memoized _ a => .boxed (G.stripMemo a)
  | .call x0 => .call x0
  | .boxed x0 => .boxed (G.stripMemo x0)
def It.stripMemo : It → It
  | .repeated x0 x1 x2 => .repeated (G.stripMemo x0) x1 x2
  | .separatedBy x0 x1 x2 x3 x4 x5 => .separatedBy (G.stripMemo x0) (G.stripMemo x1) x2 x3 x4 x5
  | .enumerate x0 => .enumerate (It.stripMemo x0)
  | .orNotIt x0 => .orNotIt (G.stripMemo x0)
  | .intoIter x0 => .intoIter (G.stripMemo x0)
  | .thenIt x0 x1 => .thenIt (It.stripMemo x0) (It.stripMemo x1)
  | .mapIt x0 x1 => .mapIt x0 (It.stripMemo x1)
  | .configureRep x0 x1 => .configureRep x0 (It.stripMemo x1)
  | .tryConfigureRep x0 x1 => .tryConfigureRep x0 (It.stripMemo x1)
def stripMemoL : List G → List G
  | [] => []
  | g :: gs => G.stripMemo g :: stripMemoL gs
end

theorem stripMemoL_cons (g : G) (gs : List G) : stripMemoL (g :: gs) = G.stripMemo g :: stripMemoL gs := rfl

theorem getElem?_stripMemoL : ∀ (gs : List G) (k : Nat), (stripMemoL gs)[k]? = (gs[k]?).map G.stripMemo
  | [], _ => rfl
  | _ :: _, 0 => rfl
  | _ :: gs, k + 1 => getElem?_stripMemoL gs k

/-- the environment of the second run: memoization `b` (irrelevant), stripped definition table -/
def Env.stripMemo (env : Env) (b : Bool) : Env := { env with memoOn := b, defs := stripMemoL env.defs }

section envLemmas
variable (env : Env) (b : Bool)
@[simp] theorem Env.stripMemo_ek : (env.stripMemo b).ek = env.ek := rfl
@[simp] theorem Env.stripMemo_memoOn : (env.stripMemo b).memoOn = b := rfl
@[simp] theorem Env.stripMemo_defs : (env.stripMemo b).defs = stripMemoL env.defs := rfl
@[simp] theorem Env.stripMemo_mkSpan : (env.stripMemo b).mkSpan = env.mkSpan := rfl
@[simp] theorem Env.stripMemo_off : (env.stripMemo b).off = env.off := rfl
@[simp] theorem St.next_stripMemo : St.next (env.stripMemo b) = St.next env := rfl
@[simp] theorem St.peek_stripMemo : St.peek (env.stripMemo b) = St.peek env := rfl
@[simp] theorem St.addAlt_stripMemo : St.addAlt (env.stripMemo b) = St.addAlt env := rfl
@[simp] theorem St.addAltErr_stripMemo : St.addAltErr (env.stripMemo b) = St.addAltErr env := rfl
@[simp] theorem St.readdAlt_stripMemo : St.readdAlt (env.stripMemo b) = St.readdAlt env := rfl
@[simp] theorem tokenPrim_stripMemo : tokenPrim (env.stripMemo b) = tokenPrim env := rfl
@[simp] theorem runCustom_stripMemo : runCustom (env.stripMemo b) = runCustom env := rfl
@[simp] theorem ctxSecondary_stripMemo : ctxSecondary (env.stripMemo b) = ctxSecondary env := rfl
@[simp] theorem justRun_stripMemo : ∀ (ts : List Nat) (st : St), justRun (env.stripMemo b) ts st = justRun env ts st
  | [], st => rfl
  | e :: es, st => by
    simp only [justRun, St.next_stripMemo, Env.stripMemo_mkSpan, St.addAlt_stripMemo, justRun_stripMemo es]
end envLemmas

def MSimR (env : Env) (b : Bool) (R R' : Runner) : Prop :=
  ∀ m g st, R env m g st = R' (env.stripMemo b) m (G.stripMemo g) st
def MSimN (env : Env) (b : Bool) (N N' : NextRunner) : Prop :=
  ∀ m it st ist, N env m it st ist = N' (env.stripMemo b) m (It.stripMemo it) st ist
def MSimK (env : Env) (b : Bool) (K K' : MkRunner) : Prop :=
  ∀ m it st, K env m it st = K' (env.stripMemo b) m (It.stripMemo it) st

@[simp] theorem It.nonconsOk_stripMemo : ∀ it : It, (It.stripMemo it).nonconsOk = it.nonconsOk
  | .repeated .. | .separatedBy .. | .orNotIt _ | .intoIter _ => rfl
  | .enumerate it | .mapIt _ it | .configureRep _ it | .tryConfigureRep _ it => It.nonconsOk_stripMemo it
  | .thenIt a b => by
    show (a.stripMemo.nonconsOk && b.stripMemo.nonconsOk) = (a.nonconsOk && b.nonconsOk)
    rw [It.nonconsOk_stripMemo a, It.nonconsOk_stripMemo b]

section loops
variable {env : Env} {b : Bool} {R R' : Runner} {N N' : NextRunner} {K K' : MkRunner}

theorem choiceTuple_strip (hR : MSimR env b R R') (m : Mode) (c : Chk) : ∀ (gs : List G) (st : St),
    choiceTuple R env m c gs st = choiceTuple R' (env.stripMemo b) m c (stripMemoL gs) st
  | [], st => rfl
  | g :: gs, st => by
    simp only [choiceTuple, stripMemoL_cons, hR m g st, choiceTuple_strip hR m c gs]

theorem choiceSlice_strip (hR : MSimR env b R R') (m : Mode) (c : Chk) : ∀ (gs : List G) (st : St),
    choiceSlice R env m c gs st = choiceSlice R' (env.stripMemo b) m c (stripMemoL gs) st
  | [], st => rfl
  | g :: gs, st => by
    simp only [choiceSlice, stripMemoL_cons, hR m g, choiceSlice_strip hR m c gs]

theorem groupLoop_strip (hR : MSimR env b R R') (m : Mode) : ∀ (gs : List G) (st : St) (acc : List Val),
    groupLoop R env m gs st acc = groupLoop R' (env.stripMemo b) m (stripMemoL gs) st acc
  | [], st, acc => rfl
  | g :: gs, st, acc => by
    simp only [groupLoop, stripMemoL_cons, hR m g, groupLoop_strip hR m gs]

theorem collectLoop_strip (hN : MSimN env b N N') (m : Mode) (it : It) (k : CollKind) :
    ∀ (fuel : Nat) (st : St) (ist : ItSt) (acc : List Val) (i : Nat),
    collectLoop N env m it k fuel st ist acc i = collectLoop N' (env.stripMemo b) m (It.stripMemo it) k fuel st ist acc i
  | 0, _, _, _, _ => rfl
  | fuel + 1, st, ist, acc, i => by
    simp only [collectLoop, hN m it, It.nonconsOk_stripMemo, collectLoop_strip hN m it k fuel]

theorem collectExactlyLoop_strip (hN : MSimN env b N N') (m : Mode) (it : It) :
    ∀ (n : Nat) (st : St) (ist : ItSt) (acc : List Val),
    collectExactlyLoop N env m it n st ist acc = collectExactlyLoop N' (env.stripMemo b) m (It.stripMemo it) n st ist acc
  | 0, _, _, _ => rfl
  | n + 1, st, ist, acc => by
    simp only [collectExactlyLoop, hN m it, collectExactlyLoop_strip hN m it n, St.addAlt_stripMemo,
      St.peek_stripMemo, Env.stripMemo_mkSpan]

theorem foldlLoop_strip (hN : MSimN env b N N') (m : Mode) (it : It) (fn : Val → Val → St → Val) :
    ∀ (fuel : Nat) (st : St) (ist : ItSt) (acc : Val),
    foldlLoop N env m it fn fuel st ist acc = foldlLoop N' (env.stripMemo b) m (It.stripMemo it) fn fuel st ist acc
  | 0, _, _, _ => rfl
  | fuel + 1, st, ist, acc => by
    simp only [foldlLoop, hN m it, It.nonconsOk_stripMemo, foldlLoop_strip hN m it fn fuel]

theorem foldrCollect_strip (hN : MSimN env b N N') (m : Mode) (it : It) :
    ∀ (fuel : Nat) (st : St) (ist : ItSt) (acc : List (Val × Nat)),
    foldrCollect N env m it fuel st ist acc = foldrCollect N' (env.stripMemo b) m (It.stripMemo it) fuel st ist acc
  | 0, _, _, _ => rfl
  | fuel + 1, st, ist, acc => by
    simp only [foldrCollect, hN m it, It.nonconsOk_stripMemo, foldrCollect_strip hN m it fuel]

theorem repeatFast_strip (hR : MSimR env b R R') (a : G) : ∀ (fuel : Nat) (st : St),
    repeatFast R env a fuel st = repeatFast R' (env.stripMemo b) (G.stripMemo a) fuel st
  | 0, _ => rfl
  | fuel + 1, st => by
    simp only [repeatFast, hR .check a, repeatFast_strip hR a fuel]

theorem iterLoop_strip (hN : MSimN env b N N') (it : It) (ap : Bool) : ∀ (fuel : Nat) (st : St) (ist : ItSt),
    iterLoop N env it ap fuel st ist = iterLoop N' (env.stripMemo b) (It.stripMemo it) ap fuel st ist
  | 0, _, _ => rfl
  | fuel + 1, st, ist => by
    simp only [iterLoop, hN .check it, iterLoop_strip hN it ap fuel]

theorem skipUntilLoop_strip (hR : MSimR env b R R') (m : Mode) (skip until_ : G) (fb : Val) (alt : Loc) :
    ∀ (fuel : Nat) (st : St),
    skipUntilLoop R env m skip until_ fb alt fuel st
      = skipUntilLoop R' (env.stripMemo b) m (G.stripMemo skip) (G.stripMemo until_) fb alt fuel st
  | 0, _ => rfl
  | fuel + 1, st => by
    simp only [skipUntilLoop, hR .check until_, hR .check skip, skipUntilLoop_strip hR m skip until_ fb alt fuel]

theorem skipRetryLoop_strip (hR : MSimR env b R R') (m : Mode) (a skip until_ : G) (alt : Loc) :
    ∀ (fuel : Nat) (st : St),
    skipRetryLoop R env m a skip until_ alt fuel st
      = skipRetryLoop R' (env.stripMemo b) m (G.stripMemo a) (G.stripMemo skip) (G.stripMemo until_) alt fuel st
  | 0, _ => rfl
  | fuel + 1, st => by
    simp only [skipRetryLoop, hR .check until_, hR .check skip, hR m a, skipRetryLoop_strip hR m a skip until_ alt fuel]

theorem repeatedNext_strip (hR : MSimR env b R R') (m : Mode) (a : G) (lo : Nat) (hi : Option Nat) (st : St) (n : Nat)
    (wrap : ItSt → ItSt) :
    repeatedNext R env m a lo hi st n wrap = repeatedNext R' (env.stripMemo b) m (G.stripMemo a) lo hi st n wrap := by
  simp only [repeatedNext, hR m a]

theorem separatedNext_strip (hR : MSimR env b R R') (m : Mode) (a sep : G) (lo : Nat) (hi : Option Nat)
    (lead trail : Bool) (st : St) (n : Nat) :
    separatedNext R env m a sep lo hi lead trail st n
      = separatedNext R' (env.stripMemo b) m (G.stripMemo a) (G.stripMemo sep) lo hi lead trail st n := by
  simp only [separatedNext, hR m a, hR .check sep]

end loops

section steps
variable {env : Env} {b : Bool} {R R' : Runner} {N N' : NextRunner} {K K' : MkRunner}

/-- one step: OFF on the grammar = (ON or OFF) on the grammar without `memoized` nodes.
    Every case: rewrite the left side with the hypotheses on the runners (and the loop lemmas); what is left is
    the computation of the right side. -/
theorem step_strip (hoff : env.memoOn = false) (hR : MSimR env b R R') (hN : MSimN env b N N') (hK : MSimK env b K K')
    (L : Nat) (m : Mode) (g : G) (st : St) :
    step R N K L env m g st = step R' N' K' L (env.stripMemo b) m (G.stripMemo g) st := by
  cases g with
  | end_ | empty | todo => rfl
  | any | oneOf | noneOf | select | custom | just | configureJust =>
    simp only [step_eqs, ← tokenPrim_stripMemo env b, ← runCustom_stripMemo env b, ← justRun_stripMemo env b]; rfl
  | call k =>
    show _ = match (stripMemoL env.defs)[k]? with
      | some d => R' (env.stripMemo b) m d st
      | none => .panic pUndefined
    rw [step_call, getElem?_stripMemoL]
    cases env.defs[k]? with
    | none => rfl
    | some d => exact hR m d st
  | memoized id a =>
    rw [step_memoized, hoff]
    exact hR m a st
  | group gs | groupArr gs => exact groupLoop_strip hR m gs st []
  | or_ a c => exact choiceTuple_strip hR m _ [a, c] st
  | choice fl gs =>
    cases fl with
    | tuple =>
      match gs with
      | [] => rfl
      | [g] => exact hR m g st
      | g :: g' :: gs => exact choiceTuple_strip hR m _ (g :: g' :: gs) st
    | slice =>
      match gs with
      | [] => rfl
      | g :: gs => exact choiceSlice_strip hR m _ (g :: gs) st
  | collect k it => simp only [step_eqs, hK _ _, collectLoop_strip hN]; rfl
  | collectExactly n it => simp only [step_eqs, hK _ _, collectExactlyLoop_strip hN]; rfl
  | foldl f a it | foldlWith a it => simp only [step_eqs, hR _ _, hK _ _, foldlLoop_strip hN]; rfl
  | foldr f it a | foldrWith it a => simp only [step_eqs, hR _ _, hK _ _, foldrCollect_strip hN]; rfl
  | iterP it =>
    cases it with
    | repeated a lo hi =>
      have h := iterLoop_strip hN (.repeated a lo hi) true L
      cases lo with
      | zero =>
        cases hi with
        | none => exact repeatFast_strip hR a L st
        | some _ => simp only [step_eqs, hK _ _, h]; rfl
      | succ lo => simp only [step_eqs, hK _ _, h]; rfl
    | separatedBy a sep lo hi lead trail =>
      simp only [step_eqs, hK _ _, iterLoop_strip hN (.separatedBy a sep lo hi lead trail)]; rfl
    | configureRep c inner => simp only [step_eqs, hK _ _, iterLoop_strip hN (.configureRep c inner)]; rfl
    | tryConfigureRep c inner => simp only [step_eqs, hK _ _, iterLoop_strip hN (.tryConfigureRep c inner)]; rfl
    | intoIter a => simp only [step_eqs, hR _ _]; rfl
    | _ => rfl
  | recoverSkipUntil a s u fb => simp only [step_eqs, hR _ _, skipUntilLoop_strip hR]; rfl
  | recoverSkipRetry a s u => simp only [step_eqs, hR _ _, skipRetryLoop_strip hR]; rfl
  -- `rw` keeps the `let`s of these two long clauses, so that `rfl` compares them as they stand
  | not_ a => rw [step_not, hR]; rfl
  | labelled l asCtx a => rw [step_labelled, hR]; rfl
  | _ => simp only [step_eqs, hR _ _]; rfl

theorem stepMk_strip (hR : MSimR env b R R') (hK : MSimK env b K K') :
    MSimK env b (stepMk R K) (stepMk R' K') := by
  intro m it st
  cases it with
  | repeated | separatedBy | orNotIt => rfl
  | intoIter a =>
    conv => lhs; simp only [stepMk, hR _ _]
    rfl
  | _ =>
    conv => lhs; simp only [stepMk, hK _ _]
    rfl

theorem stepNext_strip (hR : MSimR env b R R') (hN : MSimN env b N N') (hK : MSimK env b K K') :
    MSimN env b (stepNext R N K) (stepNext R' N' K') := by
  intro m it st ist
  cases it with
  | repeated a lo hi =>
    cases ist with
    | cnt n => exact repeatedNext_strip hR m a lo hi st n id
    | _ => rfl
  | separatedBy a sep lo hi lead trail =>
    cases ist with
    | cnt n => exact separatedNext_strip hR m a sep lo hi lead trail st n
    | _ => rfl
  | enumerate inner =>
    cases ist with
    | enum k si => simp only [step_eqs, hN _ _]; rfl
    | _ => rfl
  | orNotIt a =>
    cases ist with
    | fin b => simp only [step_eqs, hR _ _]; rfl
    | _ => rfl
  | intoIter a => cases ist <;> rfl
  | thenIt x y =>
    cases ist with
    | thn sa sb? => cases sb? <;> simp only [step_eqs, hN _ _, hK _ _] <;> rfl
    | _ => rfl
  | mapIt fn inner => simp only [step_eqs, hN _ _]; rfl
  | configureRep c inner | tryConfigureRep c inner =>
    cases inner with
    | repeated a lo hi =>
      cases ist with
      | cfg si clo chi =>
        cases si with
        | cnt n => exact repeatedNext_strip hR m a (clo.getD lo) _ st n (fun s => .cfg s clo chi)
        | _ => rfl
      | _ => rfl
    | _ => rfl
end steps

theorem run_stripMemo_all (env : Env) (hoff : env.memoOn = false) (b : Bool) : ∀ n : Nat,
    MSimR env b (run n) (run n) ∧ MSimN env b (next n) (next n) ∧ MSimK env b (mkIter n) (mkIter n)
  | 0 => ⟨fun _ _ _ => rfl, fun _ _ _ _ => rfl, fun _ _ _ => rfl⟩
  | n + 1 => by
    obtain ⟨hR, hN, hK⟩ := run_stripMemo_all env hoff b n
    exact ⟨fun m g st => step_strip hoff hR hN hK n m g st, stepNext_strip hR hN hK, stepMk_strip hR hK⟩

theorem run_stripMemo (n : Nat) (env : Env) (hoff : env.memoOn = false) (b : Bool) (m : Mode) (g : G) (st : St) :
    run n env m g st = run n { env with memoOn := b, defs := stripMemoL env.defs } m g.stripMemo st :=
  (run_stripMemo_all env hoff b n).1 m g st

theorem next_stripMemo (n : Nat) (env : Env) (hoff : env.memoOn = false) (b : Bool) (m : Mode) (it : It) (st : St)
    (ist : ItSt) :
    next n env m it st ist = next n { env with memoOn := b, defs := stripMemoL env.defs } m it.stripMemo st ist :=
  (run_stripMemo_all env hoff b n).2.1 m it st ist

theorem mkIter_stripMemo (n : Nat) (env : Env) (hoff : env.memoOn = false) (b : Bool) (m : Mode) (it : It) (st : St) :
    mkIter n env m it st = mkIter n { env with memoOn := b, defs := stripMemoL env.defs } m it.stripMemo st :=
  (run_stripMemo_all env hoff b n).2.2 m it st

theorem parseTop_stripMemo (n : Nat) (env : Env) (hoff : env.memoOn = false) (b : Bool) (m : Mode) (g : G) :
    parseTop n env m g = parseTop n { env with memoOn := b, defs := stripMemoL env.defs } m g.stripMemo := by
  unfold parseTop
  rw [run_stripMemo n env hoff b m (.thenIgnore g .end_) St.init]
  rfl

mutual
def G.memoFree : G → Bool
  | .end_ => true
  | .empty => true
  | .any => true
  | .just x0 => true
  | .oneOf x0 => true
  | .noneOf x0 => true
  | .select x0 => true
  | .custom x0 => true
  | .todo => true
  | .then_ x0 x1 => G.memoFree x0 && G.memoFree x1
  | .ignoreThen x0 x1 => G.memoFree x0 && G.memoFree x1
  | .thenIgnore x0 x1 => G.memoFree x0 && G.memoFree x1
  | .delimitedBy x0 x1 x2 => G.memoFree x0 && G.memoFree x1 && G.memoFree x2
  | .paddedBy x0 x1 => G.memoFree x0 && G.memoFree x1
  | .group x0 => memoFreeL x0
  | .groupArr x0 => memoFreeL x0
  | .or_ x0 x1 => G.memoFree x0 && G.memoFree x1
  | .choice x0 x1 => memoFreeL x1
  | .orNot x0 => G.memoFree x0
  | .not_ x0 => G.memoFree x0
  | .andIs x0 x1 => G.memoFree x0 && G.memoFree x1
  | .rewind x0 => G.memoFree x0
  | .map x0 x1 => G.memoFree x1
  | .to x0 x1 => G.memoFree x1
  | .ignored x0 => G.memoFree x0
  | .filter x0 x1 => G.memoFree x1
  | .tryMap x0 x1 => G.memoFree x1
  | .tryMapWith x0 x1 => G.memoFree x1
  | .toSpan x0 => G.memoFree x0
  | .toSlice x0 => G.memoFree x0
  | .mapWithSpan x0 => G.memoFree x0
  | .mapWithState x0 => G.memoFree x0
  | .mapWithCtx x0 => G.memoFree x0
  | .validate x0 x1 => G.memoFree x1
  | .collect x0 x1 => It.memoFree x1
  | .collectExactly x0 x1 => It.memoFree x1
  | .foldl x0 x1 x2 => G.memoFree x1 && It.memoFree x2
  | .foldr x0 x1 x2 => It.memoFree x1 && G.memoFree x2
  | .foldlWith x0 x1 => G.memoFree x0 && It.memoFree x1
  | .foldrWith x0 x1 => It.memoFree x0 && G.memoFree x1
  | .iterP x0 => It.memoFree x0
  | .recoverVia x0 x1 => G.memoFree x0 && G.memoFree x1
  | .recoverSkipUntil x0 x1 x2 x3 => G.memoFree x0 && G.memoFree x1 && G.memoFree x2
  | .recoverSkipRetry x0 x1 x2 => G.memoFree x0 && G.memoFree x1 && G.memoFree x2
  | .labelled x0 x1 x2 => G.memoFree x2
  | .mapErr x0 x1 => G.memoFree x1
  | .withCtx x0 x1 => G.memoFree x1
  | .ignoreWithCtx x0 x1 => G.memoFree x0 && G.memoFree x1
  | .thenWithCtx x0 x1 => G.memoFree x0 && G.memoFree x1
  | .mapCtx x0 x1 => G.memoFree x1
  | .configureJust x0 x1 => true
  | .withState x0 => G.memoFree x0
  | .memoized _ _ => false
  | .call x0 => true
  | .boxed x0 => G.memoFree x0
def It.memoFree : It → Bool
  | .repeated x0 x1 x2 => G.memoFree x0
  | .separatedBy x0 x1 x2 x3 x4 x5 => G.memoFree x0 && G.memoFree x1
  | .enumerate x0 => It.memoFree x0
  | .orNotIt x0 => G.memoFree x0
  | .intoIter x0 => G.memoFree x0
  | .thenIt x0 x1 => It.memoFree x0 && It.memoFree x1
  | .mapIt x0 x1 => It.memoFree x1
  | .configureRep x0 x1 => It.memoFree x1
  | .tryConfigureRep x0 x1 => It.memoFree x1
def memoFreeL : List G → Bool
  | [] => true
  | g :: gs => G.memoFree g && memoFreeL gs
end

theorem and_true₂ {x y : Bool} (hx : x = true) (hy : y = true) : (x && y) = true :=
  Bool.and_eq_true_iff.2 ⟨hx, hy⟩

mutual
theorem G.stripMemo_memoFree : ∀ g : G, g.stripMemo.memoFree = true
  | .end_ | .empty | .any | .just _ | .oneOf _ | .noneOf _ | .select _ | .custom _ | .todo | .configureJust _ _
  | .call _ => rfl
  | .orNot a | .not_ a | .rewind a | .map _ a | .to _ a | .ignored a | .filter _ a | .tryMap _ a | .tryMapWith _ a
  | .toSpan a | .toSlice a | .mapWithSpan a | .mapWithState a | .mapWithCtx a | .validate _ a | .labelled _ _ a
  | .mapErr _ a | .withCtx _ a | .mapCtx _ a | .withState a | .memoized _ a | .boxed a => G.stripMemo_memoFree a
  | .then_ a b | .ignoreThen a b | .thenIgnore a b | .paddedBy a b | .or_ a b | .andIs a b | .recoverVia a b
  | .ignoreWithCtx a b | .thenWithCtx a b => and_true₂ (G.stripMemo_memoFree a) (G.stripMemo_memoFree b)
  | .delimitedBy a b c | .recoverSkipUntil a b c _ | .recoverSkipRetry a b c =>
    and_true₂ (and_true₂ (G.stripMemo_memoFree a) (G.stripMemo_memoFree b)) (G.stripMemo_memoFree c)
  | .group gs | .groupArr gs | .choice _ gs => stripMemoL_memoFree gs
  | .collect _ it | .collectExactly _ it | .iterP it => It.stripMemo_memoFree it
  | .foldl _ a it | .foldlWith a it => and_true₂ (G.stripMemo_memoFree a) (It.stripMemo_memoFree it)
  | .foldr _ it a | .foldrWith it a => and_true₂ (It.stripMemo_memoFree it) (G.stripMemo_memoFree a)
theorem It.stripMemo_memoFree : ∀ it : It, it.stripMemo.memoFree = true
  | .repeated a _ _ | .orNotIt a | .intoIter a => G.stripMemo_memoFree a
  | .separatedBy a b _ _ _ _ => and_true₂ (G.stripMemo_memoFree a) (G.stripMemo_memoFree b)
  | .enumerate it | .mapIt _ it | .configureRep _ it | .tryConfigureRep _ it => It.stripMemo_memoFree it
  | .thenIt a b => and_true₂ (It.stripMemo_memoFree a) (It.stripMemo_memoFree b)
theorem stripMemoL_memoFree : ∀ gs : List G, memoFreeL (stripMemoL gs) = true
  | [] => rfl
  | g :: gs => and_true₂ (G.stripMemo_memoFree g) (stripMemoL_memoFree gs)
end

#print axioms run_stripMemo
#print axioms next_stripMemo
#print axioms mkIter_stripMemo
#print axioms parseTop_stripMemo
#print axioms G.stripMemo_memoFree
end Chumsky
