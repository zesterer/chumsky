/-
  Proofs/Lemmas/KindSim.lean — the result does not depend on how the input is represented (C10).

  The machine touches the input kind only through `Env.mkSpan` and `Env.off`.  Running under any kind
  equals running under the index-based `.slice` kind with every span re-based afterwards
  (functional simulation): `run n env' m g (st.mapSp M) = (run n env m g st).mapSp M`.

  * `SpMap`, `Val.mapSp`, `Err.mapSp`, `St.mapSp`, `Out.mapSp`, …: the re-basing of everything the machine produces
    (cursor and inspector untouched).
  * `KindRel M env env'`: same tokens / error type / memo switch, the definitions of `env'` are those of `env` with their
    constants re-based (`mapConstL`), `env'.mkSpan = M.f ∘ env.mkSpan`, `env'.off = M.o ∘ env.off`, the three span-taking
    error constructors commute with `M`.
  * `run_kindSim_gen` / `parseTop_kindSim_gen`: the simulation for any two related environments and EVERY grammar,
    the constants of the grammar (`to v`, `with_ctx(c)`, the fallback of `skip_until`) being re-based too
    (`G.mapConst`).  No hypothesis on the start state.
  * `run_kindSim_partial` / `parseTop_kindSim_partial` (and the primed versions for every error type): `env` of kind
    `.slice`, `env' := { env with kind, tspans, eoi }`, grammars of the class `G.constOk` (constants without
    span / slice values, for which `G.mapConst` is the identity).
  * examples: three presentations of "éa"; why the class; why the zero-sized error type is treated apart.

  Layout: commutation lemmas for every state operation, collected with the equations of `mapSp` in the simp set
  `kind_simps` (normal form: `mapSp` pushed out of the operations on states, into the constructors of results and
  values); `Out.andThen_kind` for everything that sequences; one lemma per loop helper; `step_kind` by cases on the
  grammar, then `stepNext`, `stepMk`, induction on the fuel.
-/
import ChumskyModel.Proofs.Lemmas.StepEqns
set_option linter.unusedVariables false   -- the proofs by recursion over the syntax name every field of every constructor
namespace Chumsky

/-- a re-basing: `fe` acts on the spans stored in errors, `f` on span values, `o` on slice offsets. `fe` is `f` except for
    the zero-sized error type, whose errors all carry the constant span `(0, 0)` and are left alone (`Env.rebase`) -/
structure SpMap where
  fe : Nat × Nat → Nat × Nat
  f : Nat × Nat → Nat × Nat
  o : Nat → Nat

def Val.mapSp (M : SpMap) : Val → Val
  | .unit => .unit
  | .tok t => .tok t
  | .toks ts => .toks ts
  | .pair a b => .pair (a.mapSp M) (b.mapSp M)
  | .nil => .nil
  | .cons h t => .cons (h.mapSp M) (t.mapSp M)
  | .none => .none
  | .some v => .some (v.mapSp M)
  | .tag k v => .tag k (v.mapSp M)
  | .span s e => .span (M.f (s, e)).1 (M.f (s, e)).2
  | .slice s e => .slice (M.o s) (M.o e)
  | .nat n => .nat n
  | .insp seen => .insp seen

def Err.mapSp (M : SpMap) (e : Err) : Err :=
  ⟨M.fe e.span, e.reason, e.ctx.map (fun c => (c.1, M.fe c.2))⟩

def Loc.mapSp (M : SpMap) (l : Loc) : Loc := ⟨l.pos, l.err.mapSp M⟩

def St.mapSp (M : SpMap) (st : St) : St :=
  { pos := st.pos
    errs := st.errs.map (Loc.mapSp M)
    alt := st.alt.map (Loc.mapSp M)
    insp := st.insp
    ctx := st.ctx.mapSp M
    memo := st.memo.map (fun kv => (kv.1, kv.2.map (Loc.mapSp M)))
    log := st.log.map (Loc.mapSp M) }

def Out.mapSp (M : SpMap) : Out → Out
  | .ok v st => .ok (v.mapSp M) (st.mapSp M)
  | .fail st => .fail (st.mapSp M)
  | .panic w => .panic w
  | .oof => .oof

def ItSt.mapSp (M : SpMap) : ItSt → ItSt
  | .cnt n => .cnt n
  | .fin b => .fin b
  | .enum k s => .enum k (s.mapSp M)
  | .into vs => .into (vs.map (Val.mapSp M))
  | .thn a none => .thn (a.mapSp M) none
  | .thn a (some b) => .thn (a.mapSp M) (some (b.mapSp M))
  | .cfg s lo hi => .cfg (s.mapSp M) lo hi

def ItOut.mapSp (M : SpMap) : ItOut → ItOut
  | .some v st ist => .some (v.mapSp M) (st.mapSp M) (ist.mapSp M)
  | .done st ist => .done (st.mapSp M) (ist.mapSp M)
  | .fail st => .fail (st.mapSp M)
  | .panic w => .panic w
  | .oof => .oof

def MkOut.mapSp (M : SpMap) : MkOut → MkOut
  | .ok ist st => .ok (ist.mapSp M) (st.mapSp M)
  | .fail st => .fail (st.mapSp M)
  | .panic w => .panic w
  | .oof => .oof

/-- no `span` / `slice` inside -/
def Val.noSp : Val → Bool
  | .pair a b => a.noSp && b.noSp
  | .cons h t => h.noSp && t.noSp
  | .some v => v.noSp
  | .tag _ v => v.noSp
  | .span _ _ => false
  | .slice _ _ => false
  | _ => true

mutual
/-- re-base the constants of a grammar (`to v`, `with_ctx(c)`, the fallback of `skip_until`) -/
def G.mapConst (M : SpMap) : G → G
  | .end_ => .end_
  | .empty => .empty
  | .any => .any
  | .just x0 => .just x0
  | .oneOf x0 => .oneOf x0
  | .noneOf x0 => .noneOf x0
  | .select x0 => .select x0
  | .custom x0 => .custom x0
  | .todo => .todo
  | .then_ x0 x1 => .then_ (G.mapConst M x0) (G.mapConst M x1)
  | .ignoreThen x0 x1 => .ignoreThen (G.mapConst M x0) (G.mapConst M x1)
  | .thenIgnore x0 x1 => .thenIgnore (G.mapConst M x0) (G.mapConst M x1)
  | .delimitedBy x0 x1 x2 => .delimitedBy (G.mapConst M x0) (G.mapConst M x1) (G.mapConst M x2)
  | .paddedBy x0 x1 => .paddedBy (G.mapConst M x0) (G.mapConst M x1)
  | .group x0 => .group (mapConstL M x0)
  | .groupArr x0 => .groupArr (mapConstL M x0)
  | .or_ x0 x1 => .or_ (G.mapConst M x0) (G.mapConst M x1)
  | .choice x0 x1 => .choice x0 (mapConstL M x1)
  | .orNot x0 => .orNot (G.mapConst M x0)
  | .not_ x0 => .not_ (G.mapConst M x0)
  | .andIs x0 x1 => .andIs (G.mapConst M x0) (G.mapConst M x1)
  | .rewind x0 => .rewind (G.mapConst M x0)
  | .map x0 x1 => .map x0 (G.mapConst M x1)
  | .to x0 x1 => .to (x0.mapSp M) (G.mapConst M x1)
  | .ignored x0 => .ignored (G.mapConst M x0)
  | .filter x0 x1 => .filter x0 (G.mapConst M x1)
  | .tryMap x0 x1 => .tryMap x0 (G.mapConst M x1)
  | .tryMapWith x0 x1 => .tryMapWith x0 (G.mapConst M x1)
  | .toSpan x0 => .toSpan (G.mapConst M x0)
  | .toSlice x0 => .toSlice (G.mapConst M x0)
  | .mapWithSpan x0 => .mapWithSpan (G.mapConst M x0)
  | .mapWithState x0 => .mapWithState (G.mapConst M x0)
  | .mapWithCtx x0 => .mapWithCtx (G.mapConst M x0)
  | .validate x0 x1 => .validate x0 (G.mapConst M x1)
  | .collect x0 x1 => .collect x0 (It.mapConst M x1)
  | .collectExactly x0 x1 => .collectExactly x0 (It.mapConst M x1)
  | .foldl x0 x1 x2 => .foldl x0 (G.mapConst M x1) (It.mapConst M x2)
  | .foldr x0 x1 x2 => .foldr x0 (It.mapConst M x1) (G.mapConst M x2)
  | .foldlWith x0 x1 => .foldlWith (G.mapConst M x0) (It.mapConst M x1)
  | .foldrWith x0 x1 => .foldrWith (It.mapConst M x0) (G.mapConst M x1)
  | .iterP x0 => .iterP (It.mapConst M x0)
  | .recoverVia x0 x1 => .recoverVia (G.mapConst M x0) (G.mapConst M x1)
  | .recoverSkipUntil x0 x1 x2 x3 => .recoverSkipUntil (G.mapConst M x0) (G.mapConst M x1) (G.mapConst M x2) (x3.mapSp M)
  | .recoverSkipRetry x0 x1 x2 => .recoverSkipRetry (G.mapConst M x0) (G.mapConst M x1) (G.mapConst M x2)
  | .labelled x0 x1 x2 => .labelled x0 x1 (G.mapConst M x2)
  | .mapErr x0 x1 => .mapErr x0 (G.mapConst M x1)
  | .withCtx x0 x1 => .withCtx (x0.mapSp M) (G.mapConst M x1)
  | .ignoreWithCtx x0 x1 => .ignoreWithCtx (G.mapConst M x0) (G.mapConst M x1)
  | .thenWithCtx x0 x1 => .thenWithCtx (G.mapConst M x0) (G.mapConst M x1)
  | .mapCtx x0 x1 => .mapCtx x0 (G.mapConst M x1)
  | .configureJust x0 x1 => .configureJust x0 x1
  | .withState x0 => .withState (G.mapConst M x0)
  | .memoized x0 x1 => .memoized x0 (G.mapConst M x1)
  | .call x0 => .call x0
  | .boxed x0 => .boxed (G.mapConst M x0)
def It.mapConst (M : SpMap) : It → It
  | .repeated x0 x1 x2 => .repeated (G.mapConst M x0) x1 x2
  | .separatedBy x0 x1 x2 x3 x4 x5 => .separatedBy (G.mapConst M x0) (G.mapConst M x1) x2 x3 x4 x5
  | .enumerate x0 => .enumerate (It.mapConst M x0)
  | .orNotIt x0 => .orNotIt (G.mapConst M x0)
  | .intoIter x0 => .intoIter (G.mapConst M x0)
  | .thenIt x0 x1 => .thenIt (It.mapConst M x0) (It.mapConst M x1)
  | .mapIt x0 x1 => .mapIt x0 (It.mapConst M x1)
  | .configureRep x0 x1 => .configureRep x0 (It.mapConst M x1)
  | .tryConfigureRep x0 x1 => .tryConfigureRep x0 (It.mapConst M x1)
def mapConstL (M : SpMap) : List G → List G
  | [] => []
  | g :: gs => G.mapConst M g :: mapConstL M gs
end

mutual
/-- the constants of the grammar carry no span / slice value -/
def G.constOk : G → Bool
  | .end_ => true
  | .empty => true
  | .any => true
  | .just x0 => true
  | .oneOf x0 => true
  | .noneOf x0 => true
  | .select x0 => true
  | .custom x0 => true
  | .todo => true
  | .then_ x0 x1 => G.constOk x0 && G.constOk x1
  | .ignoreThen x0 x1 => G.constOk x0 && G.constOk x1
  | .thenIgnore x0 x1 => G.constOk x0 && G.constOk x1
  | .delimitedBy x0 x1 x2 => G.constOk x0 && G.constOk x1 && G.constOk x2
  | .paddedBy x0 x1 => G.constOk x0 && G.constOk x1
  | .group x0 => constOkL x0
  | .groupArr x0 => constOkL x0
  | .or_ x0 x1 => G.constOk x0 && G.constOk x1
  | .choice x0 x1 => constOkL x1
  | .orNot x0 => G.constOk x0
  | .not_ x0 => G.constOk x0
  | .andIs x0 x1 => G.constOk x0 && G.constOk x1
  | .rewind x0 => G.constOk x0
  | .map x0 x1 => G.constOk x1
  | .to x0 x1 => x0.noSp && G.constOk x1
  | .ignored x0 => G.constOk x0
  | .filter x0 x1 => G.constOk x1
  | .tryMap x0 x1 => G.constOk x1
  | .tryMapWith x0 x1 => G.constOk x1
  | .toSpan x0 => G.constOk x0
  | .toSlice x0 => G.constOk x0
  | .mapWithSpan x0 => G.constOk x0
  | .mapWithState x0 => G.constOk x0
  | .mapWithCtx x0 => G.constOk x0
  | .validate x0 x1 => G.constOk x1
  | .collect x0 x1 => It.constOk x1
  | .collectExactly x0 x1 => It.constOk x1
  | .foldl x0 x1 x2 => G.constOk x1 && It.constOk x2
  | .foldr x0 x1 x2 => It.constOk x1 && G.constOk x2
  | .foldlWith x0 x1 => G.constOk x0 && It.constOk x1
  | .foldrWith x0 x1 => It.constOk x0 && G.constOk x1
  | .iterP x0 => It.constOk x0
  | .recoverVia x0 x1 => G.constOk x0 && G.constOk x1
  | .recoverSkipUntil x0 x1 x2 x3 => G.constOk x0 && G.constOk x1 && G.constOk x2 && x3.noSp
  | .recoverSkipRetry x0 x1 x2 => G.constOk x0 && G.constOk x1 && G.constOk x2
  | .labelled x0 x1 x2 => G.constOk x2
  | .mapErr x0 x1 => G.constOk x1
  | .withCtx x0 x1 => x0.noSp && G.constOk x1
  | .ignoreWithCtx x0 x1 => G.constOk x0 && G.constOk x1
  | .thenWithCtx x0 x1 => G.constOk x0 && G.constOk x1
  | .mapCtx x0 x1 => G.constOk x1
  | .configureJust x0 x1 => true
  | .withState x0 => G.constOk x0
  | .memoized x0 x1 => G.constOk x1
  | .call x0 => true
  | .boxed x0 => G.constOk x0
def It.constOk : It → Bool
  | .repeated x0 x1 x2 => G.constOk x0
  | .separatedBy x0 x1 x2 x3 x4 x5 => G.constOk x0 && G.constOk x1
  | .enumerate x0 => It.constOk x0
  | .orNotIt x0 => G.constOk x0
  | .intoIter x0 => G.constOk x0
  | .thenIt x0 x1 => It.constOk x0 && It.constOk x1
  | .mapIt x0 x1 => It.constOk x1
  | .configureRep x0 x1 => It.constOk x1
  | .tryConfigureRep x0 x1 => It.constOk x1
def constOkL : List G → Bool
  | [] => true
  | g :: gs => G.constOk g && constOkL gs
end


section basics
variable (M : SpMap)

@[simp] theorem St.mapSp_pos (st : St) : (st.mapSp M).pos = st.pos := rfl
@[simp] theorem St.mapSp_errs (st : St) : (st.mapSp M).errs = st.errs.map (Loc.mapSp M) := rfl
@[simp] theorem St.mapSp_alt (st : St) : (st.mapSp M).alt = st.alt.map (Loc.mapSp M) := rfl
@[simp] theorem St.mapSp_insp (st : St) : (st.mapSp M).insp = st.insp := rfl
@[simp] theorem St.mapSp_ctx (st : St) : (st.mapSp M).ctx = st.ctx.mapSp M := rfl
@[simp] theorem St.mapSp_memo (st : St) :
    (st.mapSp M).memo = st.memo.map (fun kv => (kv.1, kv.2.map (Loc.mapSp M))) := rfl
@[simp] theorem St.mapSp_log (st : St) : (st.mapSp M).log = st.log.map (Loc.mapSp M) := rfl
@[simp] theorem Loc.mapSp_pos (l : Loc) : (l.mapSp M).pos = l.pos := rfl
@[simp] theorem Loc.mapSp_err (l : Loc) : (l.mapSp M).err = l.err.mapSp M := rfl
@[simp] theorem Loc.mapSp_mk (p : Nat) (e : Err) : Loc.mapSp M ⟨p, e⟩ = ⟨p, e.mapSp M⟩ := rfl
@[simp] theorem Err.mapSp_span (e : Err) : (e.mapSp M).span = M.fe e.span := rfl
@[simp] theorem Err.mapSp_reason (e : Err) : (e.mapSp M).reason = e.reason := rfl
@[simp] theorem Err.mapSp_ctx (e : Err) : (e.mapSp M).ctx = e.ctx.map (fun c => (c.1, M.fe c.2)) := rfl

@[simp] theorem Out.mapSp_ok (v : Val) (st : St) : (Out.ok v st).mapSp M = .ok (v.mapSp M) (st.mapSp M) := rfl
@[simp] theorem Out.mapSp_fail (st : St) : (Out.fail st).mapSp M = .fail (st.mapSp M) := rfl
@[simp] theorem Out.mapSp_panic (w : Nat) : (Out.panic w).mapSp M = .panic w := rfl
@[simp] theorem Out.mapSp_oof : Out.oof.mapSp M = .oof := rfl
@[simp] theorem ItOut.mapSp_some (v : Val) (st : St) (ist : ItSt) :
    (ItOut.some v st ist).mapSp M = .some (v.mapSp M) (st.mapSp M) (ist.mapSp M) := rfl
@[simp] theorem ItOut.mapSp_done (st : St) (ist : ItSt) :
    (ItOut.done st ist).mapSp M = .done (st.mapSp M) (ist.mapSp M) := rfl
@[simp] theorem ItOut.mapSp_fail (st : St) : (ItOut.fail st).mapSp M = .fail (st.mapSp M) := rfl
@[simp] theorem ItOut.mapSp_panic (w : Nat) : (ItOut.panic w).mapSp M = .panic w := rfl
@[simp] theorem ItOut.mapSp_oof : ItOut.oof.mapSp M = .oof := rfl
@[simp] theorem MkOut.mapSp_ok (ist : ItSt) (st : St) :
    (MkOut.ok ist st).mapSp M = .ok (ist.mapSp M) (st.mapSp M) := rfl
@[simp] theorem MkOut.mapSp_fail (st : St) : (MkOut.fail st).mapSp M = .fail (st.mapSp M) := rfl
@[simp] theorem MkOut.mapSp_panic (w : Nat) : (MkOut.panic w).mapSp M = .panic w := rfl
@[simp] theorem MkOut.mapSp_oof : MkOut.oof.mapSp M = .oof := rfl

@[simp] theorem ItSt.mapSp_cnt (n : Nat) : (ItSt.cnt n).mapSp M = .cnt n := rfl
@[simp] theorem ItSt.mapSp_fin (b : Bool) : (ItSt.fin b).mapSp M = .fin b := rfl
@[simp] theorem ItSt.mapSp_enum (k : Nat) (s : ItSt) : (ItSt.enum k s).mapSp M = .enum k (s.mapSp M) := rfl
@[simp] theorem ItSt.mapSp_into (vs : List Val) : (ItSt.into vs).mapSp M = .into (vs.map (Val.mapSp M)) := rfl
@[simp] theorem ItSt.mapSp_thn (a : ItSt) (b : Option ItSt) :
    (ItSt.thn a b).mapSp M = .thn (a.mapSp M) (b.map (ItSt.mapSp M)) := by
  cases b <;> rfl
@[simp] theorem ItSt.mapSp_cfg (s : ItSt) (lo hi : Option Nat) :
    (ItSt.cfg s lo hi).mapSp M = .cfg (s.mapSp M) lo hi := rfl

theorem Val.mapSp_unit : Val.mapSp M .unit = .unit := rfl
theorem Val.mapSp_tok (t : Nat) : Val.mapSp M (.tok t) = .tok t := rfl
theorem Val.mapSp_toks (ts : List Nat) : Val.mapSp M (.toks ts) = .toks ts := rfl
theorem Val.mapSp_pair (a b : Val) : Val.mapSp M (.pair a b) = .pair (a.mapSp M) (b.mapSp M) := rfl
theorem Val.mapSp_nil : Val.mapSp M .nil = .nil := rfl
theorem Val.mapSp_cons (a b : Val) : Val.mapSp M (.cons a b) = .cons (a.mapSp M) (b.mapSp M) := rfl
theorem Val.mapSp_none : Val.mapSp M .none = .none := rfl
theorem Val.mapSp_some (a : Val) : Val.mapSp M (.some a) = .some (a.mapSp M) := rfl
theorem Val.mapSp_tag (k : Nat) (a : Val) : Val.mapSp M (.tag k a) = .tag k (a.mapSp M) := rfl
theorem Val.mapSp_span (s e : Nat) : Val.mapSp M (.span s e) = .span (M.f (s, e)).1 (M.f (s, e)).2 := rfl
theorem Val.mapSp_slice (s e : Nat) : Val.mapSp M (.slice s e) = .slice (M.o s) (M.o e) := rfl
theorem Val.mapSp_nat (n : Nat) : Val.mapSp M (.nat n) = .nat n := rfl
theorem Val.mapSp_insp (l : List Nat) : Val.mapSp M (.insp l) = .insp l := rfl

theorem Mode.mapSp_bind (m : Mode) (v : Val) : (m.bind v).mapSp M = m.bind (v.mapSp M) := by
  cases m <;> rfl

attribute [kind_simps]
  St.mapSp_pos St.mapSp_errs St.mapSp_alt St.mapSp_insp St.mapSp_ctx St.mapSp_memo St.mapSp_log
  Loc.mapSp_pos Loc.mapSp_err
  Out.mapSp_ok Out.mapSp_fail Out.mapSp_panic Out.mapSp_oof
  ItOut.mapSp_some ItOut.mapSp_done ItOut.mapSp_fail ItOut.mapSp_panic ItOut.mapSp_oof
  MkOut.mapSp_ok MkOut.mapSp_fail MkOut.mapSp_panic MkOut.mapSp_oof
  ItSt.mapSp_cnt ItSt.mapSp_fin ItSt.mapSp_enum ItSt.mapSp_into ItSt.mapSp_thn ItSt.mapSp_cfg
  Val.mapSp_unit Val.mapSp_tok Val.mapSp_toks Val.mapSp_pair Val.mapSp_nil Val.mapSp_cons Val.mapSp_none
  Val.mapSp_some Val.mapSp_tag Val.mapSp_span Val.mapSp_slice Val.mapSp_nat Val.mapSp_insp Mode.mapSp_bind
  List.length_map Option.map_none Option.map_some Prod.eta

theorem congr_of_and₂ {α β γ : Type} (f : α → β → γ) {a a' : α} {b b' : β} {p q : Bool}
    (ha : p = true → a' = a) (hb : q = true → b' = b) (h : (p && q) = true) : f a' b' = f a b := by
  rw [Bool.and_eq_true] at h
  rw [ha h.1, hb h.2]

theorem congr_of_and₃ {α β γ δ : Type} (f : α → β → γ → δ) {a a' : α} {b b' : β} {c c' : γ}
    {p q r : Bool} (ha : p = true → a' = a) (hb : q = true → b' = b) (hc : r = true → c' = c)
    (h : (p && q && r) = true) :
    f a' b' c' = f a b c := by
  rw [Bool.and_eq_true] at h
  rw [hc h.2]
  exact congr_of_and₂ (f · · c) ha hb h.1

theorem Val.mapSp_of_noSp : ∀ (v : Val), v.noSp = true → v.mapSp M = v
  | .pair a b, h => congr_of_and₂ Val.pair (mapSp_of_noSp a) (mapSp_of_noSp b) h
  | .cons a b, h => congr_of_and₂ Val.cons (mapSp_of_noSp a) (mapSp_of_noSp b) h
  | .some a, h => congrArg Val.some (mapSp_of_noSp a h)
  | .tag k a, h => congrArg (Val.tag k) (mapSp_of_noSp a h)
  | .span .., h | .slice .., h => Bool.noConfusion h
  | .unit, _ | .tok _, _ | .toks _, _ | .nil, _ | .none, _ | .nat _, _ | .insp _, _ => rfl

theorem Val.mapSp_beq_tok (v : Val) (t : Nat) : (v.mapSp M == .tok t) = (v == .tok t) := by cases v <;> rfl
theorem Val.mapSp_beq_nil (v : Val) : (v.mapSp M == .nil) = (v == .nil) := by cases v <;> rfl

@[simp, kind_simps] theorem PredFn.eval_mapSp (p : PredFn) (v : Val) : p.eval (v.mapSp M) = p.eval v := by
  cases p with
  | always => rfl
  | never => rfl
  | tokIs t => simp only [PredFn.eval, Val.mapSp_beq_tok]
  | tokNot t => simp only [PredFn.eval, bne, Val.mapSp_beq_tok]
  | isSome => cases v <;> rfl
  | isNil => simp only [PredFn.eval, Val.mapSp_beq_nil]

@[simp, kind_simps] theorem MapFn.eval_mapSp (f : MapFn) (v : Val) : f.eval (v.mapSp M) = (f.eval v).mapSp M := by
  cases f with
  | tag k | dup => rfl
  | fst | snd => cases v <;> rfl

@[simp, kind_simps] theorem FoldFn.evalL_mapSp (f : FoldFn) (a x : Val) :
    f.evalL (a.mapSp M) (x.mapSp M) = (f.evalL a x).mapSp M := by cases f <;> rfl
@[simp, kind_simps] theorem FoldFn.evalR_mapSp (f : FoldFn) (x a : Val) :
    f.evalR (x.mapSp M) (a.mapSp M) = (f.evalR x a).mapSp M := by cases f <;> rfl

@[simp, kind_simps] theorem Val.elems_mapSp : ∀ v : Val, (v.mapSp M).elems = v.elems.map (Val.mapSp M)
  | .cons h t => congrArg (h.mapSp M :: ·) (elems_mapSp t)
  | .toks ts => (List.map_map (g := Val.mapSp M) (f := Val.tok) (l := ts)).symm
  | .some _ | .unit | .tok _ | .pair .. | .nil | .none | .tag .. | .span .. | .slice .. | .nat _ | .insp _ => rfl

@[simp, kind_simps] theorem Val.asNat?_mapSp (v : Val) : (v.mapSp M).asNat? = v.asNat? := by cases v <;> rfl
@[simp, kind_simps] theorem Val.asToks?_mapSp (v : Val) : (v.mapSp M).asToks? = v.asToks? := by cases v <;> rfl

@[simp, kind_simps] theorem CtxFn.eval_mapSp (f : CtxFn) (v : Val) : f.eval (v.mapSp M) = (f.eval v).mapSp M := by
  cases f with
  | id => rfl
  | tag k => rfl
  | lenOf =>
    cases v with
    | cons h t =>
      exact congrArg Val.nat ((congrArg List.length (Val.elems_mapSp M (.cons h t))).trans (List.length_map _))
    | _ => rfl

@[simp] theorem Val.ofList_mapSp : ∀ l : List Val, Val.ofList (l.map (Val.mapSp M)) = (Val.ofList l).mapSp M
  | [] => rfl
  | v :: vs => congrArg (Val.cons (v.mapSp M)) (ofList_mapSp vs)

theorem ofList_reverse_mapSp (m : Mode) (acc : List Val) :
    m.bind (Val.ofList (acc.map (Val.mapSp M)).reverse) = (m.bind (Val.ofList acc.reverse)).mapSp M := by
  rw [← List.map_reverse, Val.ofList_mapSp, Mode.mapSp_bind]

@[simp] theorem collectOut_mapSp (m : Mode) (k : CollKind) (items : List Val) :
    collectOut m k (items.map (Val.mapSp M)) = (collectOut m k items).mapSp M := by
  unfold collectOut
  rw [Mode.mapSp_bind]
  cases k with
  | vec => exact congrArg m.bind (Val.ofList_mapSp M items)
  | string =>
    refine congrArg (fun ts => m.bind (.toks ts)) ?_
    rw [List.filterMap_map]
    exact congrArg (List.filterMap · items) (funext fun v => by cases v <;> rfl)
  | count => exact congrArg (fun n => m.bind (.nat n)) (List.length_map ..)
  | unit => rfl

@[simp, kind_simps] theorem cfgBounds_mapSp (c : CfgFn) (v : Val) : cfgBounds c (v.mapSp M) = cfgBounds c v := by
  simp only [cfgBounds, Val.asNat?_mapSp]

@[simp] theorem ErrKind.merge_mapSp (k : ErrKind) (a b : Err) :
    k.merge (a.mapSp M) (b.mapSp M) = (k.merge a b).mapSp M := by cases k <;> rfl

/-- `mergeEF` ignores its span argument (the first span is kept on a merge at equal positions): hence two unrelated spans -/
@[simp] theorem ErrKind.mergeEF_mapSp (k : ErrKind) (a : Err) (exp : List Pat) (found : Option Nat) (s s' : Nat × Nat) :
    k.mergeEF (a.mapSp M) exp found s' = (k.mergeEF a exp found s).mapSp M := by
  cases k with
  | rich =>
    simp only [ErrKind.mergeEF, Err.mapSp_reason]
    cases a.reason <;> rfl
  | _ => rfl

@[simp] theorem ErrKind.labelWith_mapSp (k : ErrKind) (a : Err) (l : Nat) :
    k.labelWith (a.mapSp M) l = (k.labelWith a l).mapSp M := by
  cases k with
  | rich =>
    simp only [ErrKind.labelWith, Err.mapSp_reason]
    cases a.reason <;> rfl
  | _ => rfl

end basics

/-- re-basing of the result of the collecting phase of `foldr` -/
def fcMapSp (M : SpMap) : (Option (List (Val × Nat) × St)) ⊕ Out → (Option (List (Val × Nat) × St)) ⊕ Out
  | .inl (some (items, st)) => .inl (some (items.map (fun x => (x.1.mapSp M, x.2)), st.mapSp M))
  | .inl none => .inl none
  | .inr o => .inr (o.mapSp M)

@[simp, kind_simps] theorem fcMapSp_some (M : SpMap) (items : List (Val × Nat)) (st : St) :
    fcMapSp M (.inl (some (items, st))) = .inl (some (items.map (fun x => (x.1.mapSp M, x.2)), st.mapSp M)) := rfl
@[simp, kind_simps] theorem fcMapSp_none (M : SpMap) : fcMapSp M (.inl none) = .inl none := rfl
@[simp, kind_simps] theorem fcMapSp_inr (M : SpMap) (o : Out) : fcMapSp M (.inr o) = .inr (o.mapSp M) := rfl

section ite
variable (M : SpMap) (c : Prop) [Decidable c]

@[kind_simps] theorem Out.mapSp_ite (a b : Out) : (if c then a else b).mapSp M = if c then a.mapSp M else b.mapSp M :=
  apply_ite ..
@[kind_simps] theorem ItOut.mapSp_ite (a b : ItOut) :
    (if c then a else b).mapSp M = if c then a.mapSp M else b.mapSp M := apply_ite ..
@[kind_simps] theorem fcMapSp_ite (a b : (Option (List (Val × Nat) × St)) ⊕ Out) :
    fcMapSp M (if c then a else b) = if c then fcMapSp M a else fcMapSp M b := apply_ite ..

end ite

theorem mapConstL_cons (M : SpMap) (g : G) (gs : List G) : mapConstL M (g :: gs) = g.mapConst M :: mapConstL M gs := rfl

theorem mapConstL_eq_map (M : SpMap) : ∀ gs : List G, mapConstL M gs = gs.map (G.mapConst M)
  | [] => rfl
  | g :: gs => congrArg (g.mapConst M :: ·) (mapConstL_eq_map M gs)

@[simp, kind_simps] theorem It.nonconsOk_mapConst (M : SpMap) : ∀ it : It, (It.mapConst M it).nonconsOk = it.nonconsOk
  | .repeated .. | .separatedBy .. | .orNotIt _ | .intoIter _ => rfl
  | .enumerate it | .mapIt _ it | .configureRep _ it | .tryConfigureRep _ it => nonconsOk_mapConst M it
  | .thenIt a b => by
    show (_ && _) = (_ && _)
    rw [nonconsOk_mapConst M a, nonconsOk_mapConst M b]

/-- `env'` presents the same tokens as `env`, with spans re-based by `M` -/
structure KindRel (M : SpMap) (env env' : Env) : Prop where
  toks : env'.toks = env.toks
  ek : env'.ek = env.ek
  defs : env'.defs = mapConstL M env.defs
  memoOn : env'.memoOn = env.memoOn
  span : ∀ i j, env'.mkSpan i j = M.f (env.mkSpan i j)
  off : ∀ i, env'.off i = M.o (env.off i)
  ef : ∀ exp found p, env.ek.expectedFound exp found (M.f p) = (env.ek.expectedFound exp found p).mapSp M
  ue : ∀ p msg, env.ek.userErr (M.f p) msg = (env.ek.userErr p msg).mapSp M
  ic : ∀ a l p, env.ek.inContext (a.mapSp M) l (M.f p) = (env.ek.inContext a l p).mapSp M

section stateOps
variable {M : SpMap} {env env' : Env}

@[simp, kind_simps] theorem St.save_mapSp (st : St) : (st.mapSp M).save = st.save := by
  simp only [St.save, St.mapSp_pos, St.mapSp_errs, St.mapSp_insp, List.length_map]

@[simp, kind_simps] theorem St.rewind_mapSp (st : St) (c : Chk) : (st.mapSp M).rewind c = (st.rewind c).mapSp M := by
  simp only [St.rewind, St.mapSp, List.map_take]

@[simp, kind_simps] theorem St.rewindInput_mapSp (st : St) (c : Chk) :
    (st.mapSp M).rewindInput c = (st.rewindInput c).mapSp M := rfl

@[simp, kind_simps] theorem St.emit_mapSp (st : St) (p : Nat) (e : Err) :
    (st.mapSp M).emit p (e.mapSp M) = (st.emit p e).mapSp M := by
  simp only [St.emit, St.mapSp, List.map_append, List.map_cons, List.map_nil, Loc.mapSp]

theorem St.next_mapSp (h : KindRel M env env') (st : St) :
    St.next env' (st.mapSp M) = ((st.next env).1, (st.next env).2.mapSp M) := by
  simp only [St.next, h.toks, St.mapSp_pos]
  cases env.toks[st.pos]? <;> rfl

theorem St.peek_mapSp (h : KindRel M env env') (st : St) : St.peek env' (st.mapSp M) = St.peek env st := by
  simp only [St.peek, h.toks, St.mapSp_pos]

theorem St.mergeAlt_mapSp (ek : ErrKind) (alt : Option Loc) (p : Nat) (e : Err) :
    St.mergeAlt ek (alt.map (Loc.mapSp M)) p (e.mapSp M) = (St.mergeAlt ek alt p e).map (Loc.mapSp M) := by
  cases alt with
  | none => rfl
  | some a =>
    simp only [St.mergeAlt, Option.map_some, Loc.mapSp_pos, Loc.mapSp_err, ErrKind.merge_mapSp,
      apply_ite (Option.map (Loc.mapSp M)), Loc.mapSp_mk]
    rfl

theorem St.addAlt_mapSp (h : KindRel M env env') (st : St) (exp : List Pat) (found : Option Nat) (i j : Nat) :
    (st.mapSp M).addAlt env' exp found (env'.mkSpan i j) = (st.addAlt env exp found (env.mkSpan i j)).mapSp M := by
  have hef := h.ef exp found (env.mkSpan i j)
  unfold St.addAlt
  rw [h.ek, h.span]
  obtain ⟨pos, errs, alt, insp, ctx, memo, log⟩ := st
  cases hk : env.ek <;> rw [hk] at hef <;> cases alt <;>
    simp only [St.mapSp, Loc.mapSp, Option.map_none, Option.map_some, List.map_append, List.map_cons, List.map_nil, hef,
      ErrKind.replaceEF, ErrKind.mergeEF_mapSp M _ _ _ _ (env.mkSpan i j), apply_ite (Option.map (Loc.mapSp M))]

theorem KindRel.userErr (h : KindRel M env env') (i j msg : Nat) :
    env'.ek.userErr (env'.mkSpan i j) msg = (env.ek.userErr (env.mkSpan i j) msg).mapSp M := by
  rw [h.ek, h.span, h.ue]

theorem St.addAltErr_mapSp (h : KindRel M env env') (st : St) (p : Nat) (e : Err) :
    (st.mapSp M).addAltErr env' p (e.mapSp M) = (st.addAltErr env p e).mapSp M := by
  unfold St.addAltErr
  rw [h.ek]
  cases env.ek <;>
    simp only [St.mapSp, Loc.mapSp, St.mergeAlt_mapSp, Option.map_some, List.map_append, List.map_cons, List.map_nil]

theorem St.readdAlt_mapSp (h : KindRel M env env') (st : St) (n : Option Loc) :
    St.readdAlt env' (st.mapSp M) (n.map (Loc.mapSp M)) = (St.readdAlt env st n).mapSp M := by
  cases n with
  | none => rfl
  | some n =>
    unfold St.readdAlt
    rw [h.ek]
    cases env.ek <;> simp only [St.mapSp, Loc.mapSp, St.mergeAlt_mapSp, Option.map_some]

theorem St.readdAlt_mapSp_some' (h : KindRel M env env') (st : St) (n : Loc) :
    St.readdAlt env' (st.mapSp M) (some (n.mapSp M)) = (St.readdAlt env st (some n)).mapSp M :=
  St.readdAlt_mapSp h st (some n)

theorem St.readdAlt_mapSp_none (st : St) :
    St.readdAlt env' (st.mapSp M) none = (St.readdAlt env st none).mapSp M := rfl

end stateOps

section fold
variable (M : SpMap)

theorem St.fold_map (p : Nat) (es : List Loc) (a : Option Loc) (i : List Nat) (c : Val)
    (mm : List ((Nat × Nat) × Option Loc)) (lg : List Loc) :
    St.mk p (es.map (Loc.mapSp M)) (a.map (Loc.mapSp M)) i (c.mapSp M)
        (mm.map (fun kv => (kv.1, kv.2.map (Loc.mapSp M)))) (lg.map (Loc.mapSp M))
      = St.mapSp M (St.mk p es a i c mm lg) := rfl

theorem St.fold_none (p : Nat) (es : List Loc) (i : List Nat) (c : Val)
    (mm : List ((Nat × Nat) × Option Loc)) (lg : List Loc) :
    St.mk p (es.map (Loc.mapSp M)) none i (c.mapSp M)
        (mm.map (fun kv => (kv.1, kv.2.map (Loc.mapSp M)))) (lg.map (Loc.mapSp M))
      = St.mapSp M (St.mk p es none i c mm lg) := rfl

theorem St.fold_some (p : Nat) (es : List Loc) (a : Loc) (i : List Nat) (c : Val)
    (mm : List ((Nat × Nat) × Option Loc)) (lg : List Loc) :
    St.mk p (es.map (Loc.mapSp M)) (some (a.mapSp M)) i (c.mapSp M)
        (mm.map (fun kv => (kv.1, kv.2.map (Loc.mapSp M)))) (lg.map (Loc.mapSp M))
      = St.mapSp M (St.mk p es (some a) i c mm lg) := rfl

attribute [kind_simps] St.fold_map St.fold_none St.fold_some

end fold

def KindSimR (M : SpMap) (env env' : Env) (R : Runner) : Prop :=
  ∀ m g st, R env' m (G.mapConst M g) (St.mapSp M st) = (R env m g st).mapSp M
def KindSimN (M : SpMap) (env env' : Env) (N : NextRunner) : Prop :=
  ∀ m it st ist, N env' m (It.mapConst M it) (St.mapSp M st) (ItSt.mapSp M ist) = (N env m it st ist).mapSp M
def KindSimK (M : SpMap) (env env' : Env) (K : MkRunner) : Prop :=
  ∀ m it st, K env' m (It.mapConst M it) (St.mapSp M st) = (K env m it st).mapSp M

section seq
variable {M : SpMap}

theorem Out.andThen_kind {o o' : Out} {k k' : Val → St → Out} (ho : o' = o.mapSp M)
    (hk : ∀ v st, k' (v.mapSp M) (st.mapSp M) = (k v st).mapSp M) :
    o'.andThen k' = (o.andThen k).mapSp M := by
  subst ho
  cases o with
  | ok v st => exact hk v st
  | _ => rfl

/-- the consumers of an iterator all start by `make_iter`; stated with the `match` of `step` itself, so that it
    applies to `step … (.collect k it) …` and the like by unification -/
theorem MkOut.match_kind {o o' : MkOut} {f f' : ItSt → St → Out} (ho : o' = o.mapSp M)
    (hf : ∀ ist st, f' (ist.mapSp M) (st.mapSp M) = (f ist st).mapSp M) :
    (match (generalizing := false) o' with
      | .ok ist st => f' ist st
      | .fail st => .fail st
      | .panic w => .panic w
      | .oof => .oof)
    = Out.mapSp M (match (generalizing := false) o with
      | .ok ist st => f ist st
      | .fail st => .fail st
      | .panic w => .panic w
      | .oof => .oof) := by
  subst ho
  cases o with
  | ok ist st => exact hf ist st
  | _ => rfl

theorem Out.ok_bind_kind (m : Mode) (v : Val) (st : St) :
    Out.ok (m.bind (v.mapSp M)) (st.mapSp M) = (Out.ok (m.bind v) st).mapSp M := by
  cases m <;> rfl

end seq

section loops
variable {M : SpMap} {env env' : Env} {R : Runner} {N : NextRunner} {K : MkRunner}

theorem choiceTuple_kind (hR : KindSimR M env env' R) (m : Mode) (c : Chk) : ∀ (gs : List G) (st : St),
    choiceTuple R env' m c (mapConstL M gs) (st.mapSp M) = (choiceTuple R env m c gs st).mapSp M
  | [], st => rfl
  | g :: gs, st => by
    simp only [mapConstL_cons, choiceTuple, hR _ _ _]
    cases R env m g st with
    | fail st' => simp only [kind_simps, choiceTuple_kind hR m c gs]
    | _ => rfl

theorem choiceSlice_kind (hR : KindSimR M env env' R) (m : Mode) (c : Chk) : ∀ (gs : List G) (st : St),
    choiceSlice R env' m c (mapConstL M gs) (st.mapSp M) = (choiceSlice R env m c gs st).mapSp M
  | [], st => rfl
  | g :: gs, st => by
    simp only [mapConstL_cons, choiceSlice, St.rewind_mapSp, hR _ _ _]
    cases R env m g (st.rewind c) with
    | fail st' => exact choiceSlice_kind hR m c gs st'
    | _ => rfl

theorem groupLoop_kind (hR : KindSimR M env env' R) (m : Mode) : ∀ (gs : List G) (st : St) (acc : List Val),
    groupLoop R env' m (mapConstL M gs) (st.mapSp M) (acc.map (Val.mapSp M)) = (groupLoop R env m gs st acc).mapSp M
  | [], st, acc => congrArg (Out.ok · _) (ofList_reverse_mapSp M m acc)
  | g :: gs, st, acc => by
    simp only [mapConstL_cons, groupLoop, hR _ _ _]
    cases R env m g st with
    | ok v st' => exact groupLoop_kind hR m gs st' (v :: acc)
    | _ => rfl

theorem collectLoop_kind (hN : KindSimN M env env' N) (m : Mode) (it : It) (k : CollKind) :
    ∀ (fuel : Nat) (st : St) (ist : ItSt) (acc : List Val) (i : Nat),
    collectLoop N env' m (it.mapConst M) k fuel (st.mapSp M) (ist.mapSp M) (acc.map (Val.mapSp M)) i
      = (collectLoop N env m it k fuel st ist acc i).mapSp M
  | 0, _, _, _, _ => rfl
  | fuel + 1, st, ist, acc, i => by
    simp only [collectLoop, hN _ _ _ _]
    cases N env m it st ist with
    | some v st' ist' =>
      simp only [kind_simps]
      exact congrArg _ (collectLoop_kind hN m it k fuel st' ist' (v :: acc) (i + 1))
    | done st' ist' =>
      rw [← List.map_reverse, collectOut_mapSp]
      rfl
    | _ => rfl

theorem collectExactlyLoop_kind (h : KindRel M env env') (hN : KindSimN M env env' N) (m : Mode) (it : It) :
    ∀ (n : Nat) (st : St) (ist : ItSt) (acc : List Val),
    collectExactlyLoop N env' m (it.mapConst M) n (st.mapSp M) (ist.mapSp M) (acc.map (Val.mapSp M))
      = (collectExactlyLoop N env m it n st ist acc).mapSp M
  | 0, st, _, acc => congrArg (Out.ok · _) (ofList_reverse_mapSp M m acc)
  | n + 1, st, ist, acc => by
    simp only [collectExactlyLoop, hN _ _ _ _]
    cases N env m it st ist with
    | some v st' ist' => exact collectExactlyLoop_kind h hN m it n st' ist' (v :: acc)
    | done st' ist' => simp only [kind_simps, St.peek_mapSp h, St.addAlt_mapSp h]
    | _ => rfl

theorem foldlLoop_kind (hN : KindSimN M env env' N) (m : Mode) (it : It) (f f' : Val → Val → St → Val)
    (hf : ∀ acc x st, f' (Val.mapSp M acc) (Val.mapSp M x) (St.mapSp M st) = (f acc x st).mapSp M) :
    ∀ (fuel : Nat) (st : St) (ist : ItSt) (acc : Val),
    foldlLoop N env' m (it.mapConst M) f' fuel (st.mapSp M) (ist.mapSp M) (acc.mapSp M)
      = (foldlLoop N env m it f fuel st ist acc).mapSp M
  | 0, _, _, _ => rfl
  | fuel + 1, st, ist, acc => by
    simp only [foldlLoop, hN _ _ _ _]
    cases N env m it st ist with
    | some v st' ist' =>
      simp only [kind_simps]
      refine congrArg _ ?_
      cases m with
      | emit => exact hf acc v st' ▸ foldlLoop_kind hN .emit it f f' hf fuel st' ist' _
      | check => exact foldlLoop_kind hN .check it f f' hf fuel st' ist' .unit
    | _ => rfl

theorem foldrCollect_kind (hN : KindSimN M env env' N) (m : Mode) (it : It) :
    ∀ (fuel : Nat) (st : St) (ist : ItSt) (acc : List (Val × Nat)),
    foldrCollect N env' m (it.mapConst M) fuel (st.mapSp M) (ist.mapSp M) (acc.map (fun x => (x.1.mapSp M, x.2)))
      = fcMapSp M (foldrCollect N env m it fuel st ist acc)
  | 0, _, _, _ => rfl
  | fuel + 1, st, ist, acc => by
    simp only [foldrCollect, hN _ _ _ _]
    cases N env m it st ist with
    | some v st' ist' =>
      simp only [kind_simps]
      exact congrArg _ (foldrCollect_kind hN m it fuel st' ist' ((v, st.pos) :: acc))
    | _ => rfl

theorem repeatFast_kind (hR : KindSimR M env env' R) (a : G) : ∀ (fuel : Nat) (st : St),
    repeatFast R env' (a.mapConst M) fuel (st.mapSp M) = (repeatFast R env a fuel st).mapSp M
  | 0, _ => rfl
  | fuel + 1, st => by
    simp only [repeatFast, hR _ _ _]
    cases R env .check a st with
    | ok v st' => simp only [kind_simps, repeatFast_kind hR a fuel]
    | fail st' => simp only [kind_simps]
    | _ => rfl

theorem iterLoop_kind (hN : KindSimN M env env' N) (it : It) (ap : Bool) : ∀ (fuel : Nat) (st : St) (ist : ItSt),
    iterLoop N env' (it.mapConst M) ap fuel (st.mapSp M) (ist.mapSp M) = (iterLoop N env it ap fuel st ist).mapSp M
  | 0, _, _ => rfl
  | fuel + 1, st, ist => by
    simp only [iterLoop, hN _ _ _ _]
    cases N env .check it st ist with
    | some v st' ist' => simp only [kind_simps, iterLoop_kind hN it ap fuel]
    | _ => rfl

theorem skipUntilLoop_kind (hR : KindSimR M env env' R) (m : Mode) (skip until_ : G) (fb : Val) (alt : Loc) :
    ∀ (fuel : Nat) (st : St),
    skipUntilLoop R env' m (skip.mapConst M) (until_.mapConst M) (fb.mapSp M) (alt.mapSp M) fuel (st.mapSp M)
      = (skipUntilLoop R env m skip until_ fb alt fuel st).mapSp M
  | 0, _ => rfl
  | fuel + 1, st => by
    simp only [skipUntilLoop, hR _ _ _]
    cases R env .check until_ st with
    | fail st1 =>
      simp only [kind_simps, hR _ _ _]
      cases R env .check skip (st1.rewind st.save) with
      | ok v st3 => exact skipUntilLoop_kind hR m skip until_ fb alt fuel st3
      | fail st3 => simp only [kind_simps]
      | _ => rfl
    | ok v st1 => simp only [kind_simps]
    | _ => rfl

theorem skipRetryLoop_kind (hR : KindSimR M env env' R) (m : Mode) (a skip until_ : G) (alt : Loc) :
    ∀ (fuel : Nat) (st : St),
    skipRetryLoop R env' m (a.mapConst M) (skip.mapConst M) (until_.mapConst M) (alt.mapSp M) fuel (st.mapSp M)
      = (skipRetryLoop R env m a skip until_ alt fuel st).mapSp M
  | 0, _ => rfl
  | fuel + 1, st => by
    simp only [skipRetryLoop, hR _ _ _]
    cases R env .check until_ st with
    | fail st1 =>
      simp only [kind_simps, hR _ _ _]
      cases R env .check skip (st1.rewind st.save) with
      | ok v st3 =>
        simp only [kind_simps, hR _ _ _]
        cases R env m a st3 with
        | ok v st4 | fail st4 => simp only [kind_simps, skipRetryLoop_kind hR m a skip until_ alt fuel]
        | _ => rfl
      | fail st3 => simp only [kind_simps]
      | _ => rfl
    | ok v st1 => simp only [kind_simps]
    | _ => rfl

end loops

section helpers
variable {M : SpMap} {env env' : Env}

theorem replicate_mapSp (es : List Loc) (n p : Nat) (e : Err) :
    es.map (Loc.mapSp M) ++ List.replicate n (Loc.mk p (e.mapSp M))
      = (es ++ List.replicate n (Loc.mk p e)).map (Loc.mapSp M) := by
  simp only [List.map_append, List.map_replicate, Loc.mapSp_mk]

theorem ctxSecondary_kind (h : KindRel M env env') (l start n : Nat) (errs : List Loc) :
    ctxSecondary env' l start n (errs.map (Loc.mapSp M)) = (ctxSecondary env l start n errs).map (Loc.mapSp M) := by
  simp only [ctxSecondary, List.map_append, List.map_take, List.map_drop, List.map_map, h.ek, h.span]
  congr 3
  funext e
  simp only [Function.comp, Loc.mapSp_pos, Loc.mapSp_err, h.ic, Loc.mapSp_mk]

theorem memoFind_mapSp (key : Nat × Nat) : ∀ mm : List ((Nat × Nat) × Option Loc),
    memoFind (mm.map (fun kv => (kv.1, kv.2.map (Loc.mapSp M)))) key
      = (memoFind mm key).map (Option.map (Loc.mapSp M))
  | [] => rfl
  | (k, v) :: rest => by
    simp only [List.map_cons, memoFind, memoFind_mapSp key rest]
    split <;> rfl

theorem memoRemove_mapSp (key : Nat × Nat) (mm : List ((Nat × Nat) × Option Loc)) :
    memoRemove (mm.map (fun kv => (kv.1, kv.2.map (Loc.mapSp M)))) key
      = (memoRemove mm key).map (fun kv => (kv.1, kv.2.map (Loc.mapSp M))) := by
  simp only [memoRemove, List.filter_map]
  rfl

theorem memoInsert_mapSp (key : Nat × Nat) (mm : List ((Nat × Nat) × Option Loc)) (v : Option Loc) :
    memoInsert (mm.map (fun kv => (kv.1, kv.2.map (Loc.mapSp M)))) key (v.map (Loc.mapSp M))
      = (memoInsert mm key v).map (fun kv => (kv.1, kv.2.map (Loc.mapSp M))) :=
  congrArg (_ :: ·) (memoRemove_mapSp key mm)

theorem memoInsert_mapSp_none (key : Nat × Nat) (mm : List ((Nat × Nat) × Option Loc)) :
    memoInsert (mm.map (fun kv => (kv.1, kv.2.map (Loc.mapSp M)))) key none
      = (memoInsert mm key none).map (fun kv => (kv.1, kv.2.map (Loc.mapSp M))) :=
  memoInsert_mapSp key mm none

theorem Out.restoreCtx_mapSp (o : Out) (c : Val) :
    (o.mapSp M).restoreCtx (c.mapSp M) = (o.restoreCtx c).mapSp M := by cases o <;> rfl

theorem Out.restoreInsp_mapSp (o : Out) (i : List Nat) :
    (o.mapSp M).restoreInsp i = (o.restoreInsp i).mapSp M := by cases o <;> rfl

theorem tokenPrim_kind (h : KindRel M env env') (m : Mode) (st : St) (accept : Nat → Option Val) (exp : List Pat)
    (hacc : ∀ t, (accept t).map (Val.mapSp M) = accept t) :
    tokenPrim env' m (st.mapSp M) accept exp = (tokenPrim env m st accept exp).mapSp M := by
  simp only [tokenPrim, St.next_mapSp h]
  cases hb : (St.next env st).fst.bind accept with
  | none => simp only [kind_simps, St.addAlt_mapSp h]
  | some v =>
    obtain ⟨t, -, ht⟩ := Option.bind_eq_some_iff.mp hb
    have hv := hacc t
    rw [ht] at hv
    refine Eq.trans ?_ (Out.ok_bind_kind m v _)
    rw [Option.some.inj hv]

theorem justRun_kind (h : KindRel M env env') : ∀ (ts : List Nat) (st : St),
    justRun env' ts (st.mapSp M) = (justRun env ts st).map (St.mapSp M) (St.mapSp M)
  | [], st => rfl
  | e :: es, st => by
    simp only [justRun, St.next_mapSp h, justRun_kind h es, kind_simps, St.addAlt_mapSp h]
    split <;> rfl

theorem runCustom_kind (h : KindRel M env env') (m : Mode) (f : CustomFn) (st : St) :
    runCustom env' m f (st.mapSp M) = (runCustom env m f st).mapSp M := by
  cases f with
  | next msg =>
    simp only [runCustom, St.next_mapSp h]
    cases (St.next env st).fst with
    | none => simp only [kind_simps, h.userErr, St.addAltErr_mapSp h]
    | some t => exact Out.ok_bind_kind m (.tok t) _
  | take2Fail msg => simp only [runCustom, St.next_mapSp h, kind_simps, h.userErr, St.addAltErr_mapSp h]
  | nothing => exact Out.ok_bind_kind m .unit st
  | failNow msg => simp only [runCustom, kind_simps, h.userErr, St.addAltErr_mapSp h]

theorem foldl_items_kind {f f' : Val → Val × Nat → Val}
    (hf : ∀ acc x, f' (acc.mapSp M) (x.1.mapSp M, x.2) = (f acc x).mapSp M) :
    ∀ (items : List (Val × Nat)) (vb : Val),
    (items.map (fun x => (x.1.mapSp M, x.2))).foldl f' (vb.mapSp M) = (items.foldl f vb).mapSp M
  | [], _ => rfl
  | x :: xs, vb => (congrArg (List.foldl f' · _) (hf vb x)).trans (foldl_items_kind hf xs _)

end helpers

section steps
variable {M : SpMap} {env env' : Env} {R : Runner} {N : NextRunner} {K : MkRunner}

/-- Every case runs the sub-parsers under the hypotheses and pushes `mapSp` through what is done with their results.
    Where `step` sequences with `Out.andThen` or starts an iterator, `Out.andThen_kind` / `MkOut.match_kind` apply to
    the goal as it stands (unification unfolds `step` at the constructor); elsewhere the equation of `step` is
    rewritten on both sides, the result of the sub-parser is split, and `kind_simps` normalises each branch. -/
theorem step_kind (h : KindRel M env env') (hR : KindSimR M env env' R) (hN : KindSimN M env env' N)
    (hK : KindSimK M env env' K) (L : Nat) : KindSimR M env env' (step R N K L) := by
  intro m g st
  cases g
  -- `G.mapConst` computed at the constructor (the grammar is argument 7 of `step R N K L env m g st`), so that the equations of
  -- `step` rewrite the left side too
  all_goals conv => lhs; arg 7; whnf
  case end_ =>
    simp only [step_end, St.next_mapSp h]
    cases (St.next env st).fst with
    | none => rfl
    | some t => simp only [kind_simps, St.addAlt_mapSp h]
  case empty | todo => rfl
  case any => exact tokenPrim_kind h _ _ _ _ (fun _ => rfl)
  case oneOf | noneOf | select => exact tokenPrim_kind h _ _ _ _ (fun t => by split <;> rfl)
  case just ts =>
    simp only [step_just, justRun_kind h]
    cases justRun env ts st with
    | inl st' => rfl
    | inr st' => exact Out.ok_bind_kind m (.toks ts) st'
  case custom f => exact runCustom_kind h _ _ _
  case then_ a b =>
    exact Out.andThen_kind (hR m a st) fun va st1 => Out.andThen_kind (hR m b st1) fun vb st2 =>
      Out.ok_bind_kind m (.pair va vb) st2
  case ignoreThen a b | thenIgnore a b =>
    exact Out.andThen_kind (hR _ a st) fun _ st1 => Out.andThen_kind (hR _ b st1) fun _ _ => rfl
  case delimitedBy | paddedBy =>
    exact Out.andThen_kind (hR _ _ st) fun _ st1 => Out.andThen_kind (hR _ _ st1) fun _ st2 =>
      Out.andThen_kind (hR _ _ st2) fun _ _ => rfl
  case group gs | groupArr gs => exact groupLoop_kind hR m gs st []
  case or_ a b =>
    rw [step_or, step_or, St.save_mapSp]
    exact choiceTuple_kind hR m st.save [a, b] st
  case choice fl gs =>
    cases fl with
    | tuple =>
      match gs with
      | [] => rfl
      | [g] => exact hR m g st
      | g :: g' :: gs =>
        rw [step_choice_tuple, step_choice_tuple, St.save_mapSp]
        exact choiceTuple_kind hR m st.save (g :: g' :: gs) st
    | slice =>
      match gs with
      | [] => exact congrArg Out.fail (St.addAlt_mapSp h st [] none st.pos st.pos)
      | g :: gs =>
        rw [step_choice_slice, step_choice_slice, St.save_mapSp]
        exact choiceSlice_kind hR m st.save (g :: gs) st
  case orNot a =>
    rw [step_orNot, step_orNot, hR]
    cases R env m a st with
    | ok v st' => cases m <;> rfl
    | fail st' => simp only [kind_simps]
    | _ => rfl
  case not_ a =>
    simp only [step_not, kind_simps, hR _ _ _]
    cases R env .check a { st with alt := none } <;> simp only [kind_simps, St.next_mapSp h, St.addAlt_mapSp h]
  case andIs a b =>
    rw [step_andIs, step_andIs, hR]
    cases R env m a st with
    | ok va st1 =>
      simp only [kind_simps, hR _ _ _]
      cases R env .check b (st1.rewindInput st.save) <;> simp only [kind_simps]
    | fail st1 => simp only [kind_simps]
    | _ => rfl
  case rewind a =>
    rw [step_rewind, step_rewind, hR]
    cases R env m a st with
    | ok v st1 => simp only [kind_simps]
    | _ => rfl
  case map f a => exact Out.andThen_kind (hR m a st) fun v st1 => by cases m <;> simp only [kind_simps]
  case to v a => exact Out.andThen_kind (hR .check a st) fun _ st1 => Out.ok_bind_kind m v st1
  case ignored a => exact Out.andThen_kind (hR .check a st) fun _ _ => rfl
  case filter p a =>
    exact Out.andThen_kind (hR .emit a st) fun v st1 => by
      simp only [kind_simps, St.peek_mapSp h, St.addAlt_mapSp h]
  case tryMap f a =>
    simp only [step_tryMap, kind_simps, hR _ _ _]
    cases R env .emit a { st with alt := none } <;>
      simp only [kind_simps, h.userErr, St.addAltErr_mapSp h, St.readdAlt_mapSp h]
  case tryMapWith f a =>
    exact Out.andThen_kind (hR .emit a st) fun v st1 => by
      simp only [kind_simps, h.userErr, St.addAltErr_mapSp h]
  case toSpan a | mapWithSpan a => exact Out.andThen_kind (hR m a st) fun _ st1 => by simp only [kind_simps, h.span]
  case toSlice a => exact Out.andThen_kind (hR .check a st) fun _ st1 => by simp only [kind_simps, h.off]
  case mapWithState a =>
    exact Out.andThen_kind (hR m a st) fun v st1 => Out.ok_bind_kind m (.pair v (.insp st1.insp)) st1
  case mapWithCtx a => exact Out.andThen_kind (hR m a st) fun v st1 => Out.ok_bind_kind m (.pair v st1.ctx) st1
  case validate f a =>
    exact Out.andThen_kind (hR .emit a st) fun v st1 => by
      simp only [kind_simps, h.userErr, replicate_mapSp, apply_ite (St.mapSp M)]
  case collect k it =>
    exact MkOut.match_kind (hK m it st) fun ist st1 => collectLoop_kind hN m it k L st1 ist [] 0
  case collectExactly n it =>
    exact MkOut.match_kind (hK m it st) fun ist st1 => collectExactlyLoop_kind h hN m it n st1 ist []
  case foldl f a it =>
    exact Out.andThen_kind (hR m a st) fun va st1 => MkOut.match_kind (hK m it st1) fun ist st2 =>
      foldlLoop_kind hN m it _ _ (fun acc x _ => FoldFn.evalL_mapSp M f acc x) L st2 ist va
  case foldlWith a it =>
    exact Out.andThen_kind (hR m a st) fun va st1 => MkOut.match_kind (hK m it st1) fun ist st2 =>
      foldlLoop_kind hN m it _ _ (fun acc x st' => by simp only [kind_simps, h.span]) L st2 ist va
  case foldr f it b | foldrWith it b =>
    simp only [step_foldr, step_foldrWith, hK _ _ _]
    cases K env m it st with
    | ok ist st1 =>
      have hc : foldrCollect N env' m (it.mapConst M) L (st1.mapSp M) (ist.mapSp M) [] = _ :=
        foldrCollect_kind hN m it L st1 ist []
      simp only [kind_simps, hc]
      cases foldrCollect N env m it L st1 ist [] with
      | inr o => rfl
      | inl x =>
        cases x with
        | none => rfl
        | some p =>
          exact Out.andThen_kind (hR m b p.2) fun vb st3 => by
            cases m with
            | check => rfl
            | emit =>
              exact congrArg (Out.ok · _) (foldl_items_kind (fun _ _ => by simp only [kind_simps, h.span]) p.1 vb)
    | _ => rfl
  case iterP it =>
    cases it with
    | repeated a lo hi =>
      cases lo with
      | zero =>
        cases hi with
        | none => exact repeatFast_kind hR a L st
        | some hh => exact MkOut.match_kind (hK .check _ st) fun ist st1 => iterLoop_kind hN _ _ L st1 ist
      | succ lo => exact MkOut.match_kind (hK .check _ st) fun ist st1 => iterLoop_kind hN _ _ L st1 ist
    | separatedBy | configureRep | tryConfigureRep =>
      exact MkOut.match_kind (hK .check _ st) fun ist st1 => iterLoop_kind hN _ _ L st1 ist
    | intoIter a => exact Out.andThen_kind (hR .check a st) fun _ _ => rfl
    | _ => rfl
  case recoverVia a r =>
    rw [step_recoverVia, step_recoverVia, hR]
    cases R env m a st with
    | fail st1 =>
      simp only [kind_simps]
      cases (st1.rewind st.save).alt with
      | none => rfl
      | some alt =>
        simp only [kind_simps, hR _ _ _]
        cases R env m r { st1.rewind st.save with alt := none } <;> simp only [kind_simps]
    | _ => rfl
  case recoverSkipUntil a skip until_ fb =>
    rw [step_recoverSkipUntil, step_recoverSkipUntil, hR]
    cases R env m a st with
    | fail st1 =>
      simp only [kind_simps]
      cases (st1.rewind st.save).alt with
      | none => rfl
      | some alt =>
        simp only [kind_simps, skipUntilLoop_kind hR]
        cases skipUntilLoop R env m skip until_ fb alt L { st1.rewind st.save with alt := none } <;>
          simp only [kind_simps]
    | _ => rfl
  case recoverSkipRetry a skip until_ =>
    rw [step_recoverSkipRetry, step_recoverSkipRetry, hR]
    cases R env m a st with
    | fail st1 =>
      simp only [kind_simps]
      cases (st1.rewind st.save).alt with
      | none => rfl
      | some alt =>
        simp only [kind_simps, skipRetryLoop_kind hR]
        cases skipRetryLoop R env m a skip until_ alt L { st1.rewind st.save with alt := none } <;>
          simp only [kind_simps]
    | _ => rfl
  case labelled l asCtx a =>
    simp only [step_labelled, kind_simps, hR _ _ _]
    cases R env m a { st with alt := none } with
    | ok v st1 | fail st1 =>
      rcases st1 with ⟨_, _, _ | n, _, _, _, _⟩ <;>
        simp only [kind_simps, h.span, h.ek, h.ic, ErrKind.labelWith_mapSp, ← Loc.mapSp_mk, St.readdAlt_mapSp_some' h,
          ctxSecondary_kind h, ← apply_ite (Err.mapSp M), apply_ite (St.mapSp M)] <;>
        rfl
    | _ => rfl
  case mapErr k a =>
    simp only [step_mapErr, kind_simps, hR _ _ _]
    cases R env m a { st with alt := none } with
    | fail st1 =>
      rcases st1 with ⟨_, _, _ | n, _, _, _, _⟩ <;>
        simp only [kind_simps, h.ek, ErrKind.labelWith_mapSp, ← Loc.mapSp_mk, St.readdAlt_mapSp_some' h]
    | ok v st1 => simp only [kind_simps, St.readdAlt_mapSp h]
    | _ => rfl
  case withCtx | mapCtx => simp only [step_withCtx, step_mapCtx, kind_simps, hR _ _ _, Out.restoreCtx_mapSp]
  case ignoreWithCtx a b =>
    exact Out.andThen_kind (hR .emit a st) fun va st1 =>
      (congrArg (Out.restoreCtx · _) (hR m b { st1 with ctx := va })).trans (Out.restoreCtx_mapSp ..)
  case thenWithCtx a b =>
    exact Out.andThen_kind (hR .emit a st) fun va st1 =>
      Out.andThen_kind
        ((congrArg (Out.restoreCtx · _) (hR m b { st1 with ctx := va })).trans (Out.restoreCtx_mapSp ..))
        fun vb st2 => Out.ok_bind_kind m (.pair va vb) st2
  case configureJust c ts =>
    simp only [step_configureJust, kind_simps, justRun_kind h]
    generalize justRun env _ st = o
    cases o with
    | inl st' => rfl
    | inr st' => exact Out.ok_bind_kind m (.toks _) st'
  case withState a => simp only [step_withState, kind_simps, hR _ _ _, Out.restoreInsp_mapSp]
  case memoized id a =>
    simp only [step_memoized, kind_simps, h.memoOn, memoFind_mapSp, hR _ _ _]
    cases env.memoOn with
    | false => rfl
    | true =>
      simp only [Bool.not_true, Bool.false_eq_true, if_false]
      cases memoFind st.memo (st.pos, id) with
      | some x => cases x <;> simp only [kind_simps, St.addAlt_mapSp h, St.addAltErr_mapSp h]
      | none =>
        simp only [kind_simps, memoInsert_mapSp_none, hR _ _ _]
        cases R env m a { st with memo := memoInsert st.memo (st.pos, id) none, alt := none } <;>
          simp only [kind_simps, St.readdAlt_mapSp h, memoRemove_mapSp, memoInsert_mapSp]
  case call k =>
    simp only [step_call, h.defs, mapConstL_eq_map, List.getElem?_map]
    cases env.defs[k]? with
    | none => rfl
    | some d => exact hR m d st
  case boxed a => exact hR m a st

end steps

section iters
variable {M : SpMap} {env env' : Env} {R : Runner} {N : NextRunner} {K : MkRunner}

theorem repeatedNext_kind (hR : KindSimR M env env' R) (m : Mode) (a : G) (lo : Nat) (hi : Option Nat)
    (st : St) (n : Nat) (wrap : ItSt → ItSt) (hw : ∀ k, (wrap (.cnt k)).mapSp M = wrap (.cnt k)) :
    repeatedNext R env' m (a.mapConst M) lo hi (st.mapSp M) n wrap
      = (repeatedNext R env m a lo hi st n wrap).mapSp M := by
  simp only [repeatedNext, hR _ _ _]
  cases R env m a st <;> simp only [kind_simps, hw]

theorem sepNextItem_kind (hR : KindSimR M env env' R) (m : Mode) (a : G) (lo : Nat) (trail : Bool) (c : Chk) (n : Nat)
    (st0 : St) :
    sepNextItem R env' m (a.mapConst M) lo trail c n (st0.mapSp M)
      = (sepNextItem R env m a lo trail c n st0).mapSp M := by
  rw [sepNextItem, sepNextItem, hR]
  cases R env m a st0 <;> simp only [kind_simps]

theorem separatedNext_kind (hR : KindSimR M env env' R) (m : Mode) (a sep : G) (lo : Nat) (hi : Option Nat)
    (lead trail : Bool) (st : St) (n : Nat) :
    separatedNext R env' m (a.mapConst M) (sep.mapConst M) lo hi lead trail (st.mapSp M) n
      = (separatedNext R env m a sep lo hi lead trail st n).mapSp M := by
  rw [separatedNext_eq, separatedNext_eq, St.save_mapSp, hR, ItOut.mapSp_ite, ItOut.mapSp_ite, ItOut.mapSp_ite]
  refine ite_congr rfl (fun _ => rfl) fun _ => ite_congr rfl (fun _ => ?_) fun _ => ite_congr rfl (fun _ => ?_) fun _ =>
    sepNextItem_kind hR m a lo trail _ n st
  · cases R env .check sep st with
    | ok _ st1 => exact sepNextItem_kind hR m a lo trail _ n st1
    | fail st1 => exact (congrArg _ (St.rewind_mapSp st1 _)).trans (sepNextItem_kind hR m a lo trail _ n _)
    | _ => rfl
  · cases R env .check sep st with
    | ok _ st1 => exact sepNextItem_kind hR m a lo trail _ n st1
    | fail st1 => simp only [kind_simps]
    | _ => rfl

theorem stepNext_kind (hR : KindSimR M env env' R) (hN : KindSimN M env env' N) (hK : KindSimK M env env' K) :
    KindSimN M env env' (stepNext R N K) := by
  intro m it st ist
  cases it with
  | repeated a lo hi =>
    cases ist with
    | cnt n => exact repeatedNext_kind hR m a lo hi st n id (fun _ => rfl)
    | thn _ sb => cases sb <;> rfl
    | _ => rfl
  | separatedBy a sep lo hi lead trail =>
    cases ist with
    | cnt n => exact separatedNext_kind hR m a sep lo hi lead trail st n
    | thn _ sb => cases sb <;> rfl
    | _ => rfl
  | enumerate inner =>
    cases ist with
    | enum k s =>
      show stepNext R N K env' m (.enumerate (inner.mapConst M)) _ (.enum k (s.mapSp M)) = _
      rw [stepNext_enumerate, stepNext_enumerate, hN]
      cases N env m inner st s <;> simp only [kind_simps]
    | thn _ sb => cases sb <;> rfl
    | _ => rfl
  | orNotIt a =>
    cases ist with
    | fin b =>
      cases b with
      | true => rfl
      | false =>
        show stepNext R N K env' m (.orNotIt (a.mapConst M)) _ (.fin false) = _
        simp only [stepNext_orNotIt, Bool.false_eq_true, if_false, hR _ _ _]
        cases R env m a st <;> simp only [kind_simps]
    | thn _ sb => cases sb <;> rfl
    | _ => rfl
  | intoIter a =>
    cases ist with
    | into vs =>
      cases vs with
      | nil => rfl
      | cons v vs => exact congrArg (ItOut.some · _ _) (Mode.mapSp_bind M m v).symm
    | thn _ sb => cases sb <;> rfl
    | _ => rfl
  | thenIt a b =>
    cases ist with
    | thn sa sb? =>
      cases sb? with
      | some sb =>
        show stepNext R N K env' m (.thenIt (a.mapConst M) (b.mapConst M)) _ (.thn (sa.mapSp M) (some (sb.mapSp M))) = _
        rw [stepNext_thenIt_some, stepNext_thenIt_some, hN]
        cases N env m b st sb <;> simp only [kind_simps]
      | none =>
        show stepNext R N K env' m (.thenIt (a.mapConst M) (b.mapConst M)) _ (.thn (sa.mapSp M) none) = _
        rw [stepNext_thenIt_none, stepNext_thenIt_none, hN]
        cases N env m a st sa with
        | done st1 sa1 =>
          simp only [kind_simps, hK _ _ _]
          cases K env m b st1 with
          | ok sb st2 =>
            simp only [kind_simps, hN _ _ _ _]
            cases N env m b st2 sb <;> simp only [kind_simps]
          | _ => rfl
        | some v st1 sa1 => simp only [kind_simps]
        | _ => rfl
    | _ => rfl
  | mapIt f inner =>
    show stepNext R N K env' m (.mapIt f (inner.mapConst M)) _ _ = _
    rw [stepNext_mapIt, stepNext_mapIt, hN]
    cases N env m inner st ist with
    | some v st1 s1 => cases m <;> simp only [kind_simps]
    | _ => rfl
  | configureRep c inner | tryConfigureRep c inner =>
    cases inner with
    | repeated a lo hi =>
      cases ist with
      | cfg s clo chi =>
        cases s with
        | cnt n => exact repeatedNext_kind hR m a _ _ st n (fun s => .cfg s clo chi) (fun _ => rfl)
        | thn _ sb => cases sb <;> rfl
        | _ => rfl
      | thn _ sb => cases sb <;> rfl
      | _ => rfl
    | _ => rfl

theorem stepMk_kind (h : KindRel M env env') (hR : KindSimR M env env' R) (hK : KindSimK M env env' K) :
    KindSimK M env env' (stepMk R K) := by
  intro m it st
  cases it
  all_goals conv => lhs; arg 5; whnf   -- `It.mapConst` at the constructor (argument 5 of `stepMk R K env m it st`)
  case repeated | separatedBy | orNotIt => rfl
  case enumerate a | thenIt a _ =>
    simp only [stepMk, hK _ _ _]
    cases K env m a st <;> rfl
  case intoIter a =>
    simp only [stepMk, hR _ _ _]
    cases R env .emit a st with
    | ok v st1 => exact congrArg (MkOut.ok · _) (congrArg ItSt.into (Val.elems_mapSp M v))
    | _ => rfl
  case mapIt f inner => exact hK m inner st
  case configureRep c inner =>
    simp only [stepMk, hK _ _ _]
    cases K env m inner st with
    | ok s st1 => simp only [kind_simps]
    | _ => rfl
  case tryConfigureRep c inner =>
    simp only [stepMk, kind_simps, hK _ _ _, h.userErr, St.addAltErr_mapSp h]
    cases st.ctx.asNat? with
    | none => rfl
    | some n => cases K env m inner st <;> rfl

end iters

theorem run_kind_all {M : SpMap} {env env' : Env} (h : KindRel M env env') : ∀ n : Nat,
    KindSimR M env env' (run n) ∧ KindSimN M env env' (next n) ∧ KindSimK M env env' (mkIter n)
  | 0 => ⟨fun _ _ _ => rfl, fun _ _ _ _ => rfl, fun _ _ _ => rfl⟩
  | n + 1 => by
    obtain ⟨hR, hN, hK⟩ := run_kind_all h n
    exact ⟨step_kind h hR hN hK n, stepNext_kind hR hN hK, stepMk_kind h hR hK⟩

theorem run_kindSim_gen {M : SpMap} {env env' : Env} (h : KindRel M env env') (n : Nat) (m : Mode) (g : G) (st : St) :
    run n env' m (g.mapConst M) (st.mapSp M) = (run n env m g st).mapSp M :=
  (run_kind_all h n).1 m g st

/- In every case `constOk` of the constructor unfolds to the conjunction of the conditions on its arguments and
   `mapConst` to the constructor applied to the mapped arguments, so the congruence lemmas apply as they stand. -/
mutual
theorem G.mapConst_of_constOk (M : SpMap) : ∀ g : G, g.constOk = true → g.mapConst M = g
  | .end_ | .empty | .any | .just _ | .oneOf _ | .noneOf _ | .select _ | .custom _ | .todo
  | .configureJust .. | .call _ => fun _ => rfl
  | .then_ a b => congr_of_and₂ G.then_ (G.mapConst_of_constOk M a) (G.mapConst_of_constOk M b)
  | .ignoreThen a b => congr_of_and₂ G.ignoreThen (G.mapConst_of_constOk M a) (G.mapConst_of_constOk M b)
  | .thenIgnore a b => congr_of_and₂ G.thenIgnore (G.mapConst_of_constOk M a) (G.mapConst_of_constOk M b)
  | .delimitedBy a l r =>
    congr_of_and₃ G.delimitedBy (G.mapConst_of_constOk M a) (G.mapConst_of_constOk M l) (G.mapConst_of_constOk M r)
  | .paddedBy a p => congr_of_and₂ G.paddedBy (G.mapConst_of_constOk M a) (G.mapConst_of_constOk M p)
  | .group gs => fun h => congrArg G.group (mapConstL_of_constOkL M gs h)
  | .groupArr gs => fun h => congrArg G.groupArr (mapConstL_of_constOkL M gs h)
  | .or_ a b => congr_of_and₂ G.or_ (G.mapConst_of_constOk M a) (G.mapConst_of_constOk M b)
  | .choice fl gs => fun h => congrArg (G.choice fl) (mapConstL_of_constOkL M gs h)
  | .orNot a => fun h => congrArg G.orNot (G.mapConst_of_constOk M a h)
  | .not_ a => fun h => congrArg G.not_ (G.mapConst_of_constOk M a h)
  | .andIs a b => congr_of_and₂ G.andIs (G.mapConst_of_constOk M a) (G.mapConst_of_constOk M b)
  | .rewind a => fun h => congrArg G.rewind (G.mapConst_of_constOk M a h)
  | .map f a => fun h => congrArg (G.map f) (G.mapConst_of_constOk M a h)
  | .to v a => congr_of_and₂ G.to (Val.mapSp_of_noSp M v) (G.mapConst_of_constOk M a)
  | .ignored a => fun h => congrArg G.ignored (G.mapConst_of_constOk M a h)
  | .filter p a => fun h => congrArg (G.filter p) (G.mapConst_of_constOk M a h)
  | .tryMap f a => fun h => congrArg (G.tryMap f) (G.mapConst_of_constOk M a h)
  | .tryMapWith f a => fun h => congrArg (G.tryMapWith f) (G.mapConst_of_constOk M a h)
  | .toSpan a => fun h => congrArg G.toSpan (G.mapConst_of_constOk M a h)
  | .toSlice a => fun h => congrArg G.toSlice (G.mapConst_of_constOk M a h)
  | .mapWithSpan a => fun h => congrArg G.mapWithSpan (G.mapConst_of_constOk M a h)
  | .mapWithState a => fun h => congrArg G.mapWithState (G.mapConst_of_constOk M a h)
  | .mapWithCtx a => fun h => congrArg G.mapWithCtx (G.mapConst_of_constOk M a h)
  | .validate f a => fun h => congrArg (G.validate f) (G.mapConst_of_constOk M a h)
  | .collect k it => fun h => congrArg (G.collect k) (It.mapConst_of_constOk M it h)
  | .collectExactly n it => fun h => congrArg (G.collectExactly n) (It.mapConst_of_constOk M it h)
  | .foldl f a it => congr_of_and₂ (G.foldl f) (G.mapConst_of_constOk M a) (It.mapConst_of_constOk M it)
  | .foldr f it b => congr_of_and₂ (G.foldr f) (It.mapConst_of_constOk M it) (G.mapConst_of_constOk M b)
  | .foldlWith a it => congr_of_and₂ G.foldlWith (G.mapConst_of_constOk M a) (It.mapConst_of_constOk M it)
  | .foldrWith it b => congr_of_and₂ G.foldrWith (It.mapConst_of_constOk M it) (G.mapConst_of_constOk M b)
  | .iterP it => fun h => congrArg G.iterP (It.mapConst_of_constOk M it h)
  | .recoverVia a r => congr_of_and₂ G.recoverVia (G.mapConst_of_constOk M a) (G.mapConst_of_constOk M r)
  | .recoverSkipUntil a s u fb =>
    congr_of_and₂ (fun (k : Val → G) v => k v)
      (congr_of_and₃ G.recoverSkipUntil (G.mapConst_of_constOk M a) (G.mapConst_of_constOk M s)
        (G.mapConst_of_constOk M u))
      (Val.mapSp_of_noSp M fb)
  | .recoverSkipRetry a s u =>
    congr_of_and₃ G.recoverSkipRetry (G.mapConst_of_constOk M a) (G.mapConst_of_constOk M s)
      (G.mapConst_of_constOk M u)
  | .labelled l c a => fun h => congrArg (G.labelled l c) (G.mapConst_of_constOk M a h)
  | .mapErr k a => fun h => congrArg (G.mapErr k) (G.mapConst_of_constOk M a h)
  | .withCtx c a => congr_of_and₂ G.withCtx (Val.mapSp_of_noSp M c) (G.mapConst_of_constOk M a)
  | .ignoreWithCtx a b => congr_of_and₂ G.ignoreWithCtx (G.mapConst_of_constOk M a) (G.mapConst_of_constOk M b)
  | .thenWithCtx a b => congr_of_and₂ G.thenWithCtx (G.mapConst_of_constOk M a) (G.mapConst_of_constOk M b)
  | .mapCtx f a => fun h => congrArg (G.mapCtx f) (G.mapConst_of_constOk M a h)
  | .withState a => fun h => congrArg G.withState (G.mapConst_of_constOk M a h)
  | .memoized id a => fun h => congrArg (G.memoized id) (G.mapConst_of_constOk M a h)
  | .boxed a => fun h => congrArg G.boxed (G.mapConst_of_constOk M a h)
theorem It.mapConst_of_constOk (M : SpMap) : ∀ it : It, it.constOk = true → it.mapConst M = it
  | .repeated a lo hi => fun h => congrArg (It.repeated · lo hi) (G.mapConst_of_constOk M a h)
  | .separatedBy a s lo hi ld tr =>
    congr_of_and₂ (It.separatedBy · · lo hi ld tr) (G.mapConst_of_constOk M a) (G.mapConst_of_constOk M s)
  | .enumerate it => fun h => congrArg It.enumerate (It.mapConst_of_constOk M it h)
  | .orNotIt a => fun h => congrArg It.orNotIt (G.mapConst_of_constOk M a h)
  | .intoIter a => fun h => congrArg It.intoIter (G.mapConst_of_constOk M a h)
  | .thenIt a b => congr_of_and₂ It.thenIt (It.mapConst_of_constOk M a) (It.mapConst_of_constOk M b)
  | .mapIt f it => fun h => congrArg (It.mapIt f) (It.mapConst_of_constOk M it h)
  | .configureRep c it => fun h => congrArg (It.configureRep c) (It.mapConst_of_constOk M it h)
  | .tryConfigureRep c it => fun h => congrArg (It.tryConfigureRep c) (It.mapConst_of_constOk M it h)
theorem mapConstL_of_constOkL (M : SpMap) : ∀ gs : List G, constOkL gs = true → mapConstL M gs = gs
  | [] => fun _ => rfl
  | g :: gs => congr_of_and₂ List.cons (G.mapConst_of_constOk M g) (mapConstL_of_constOkL M gs)
end

def TopOut.mapSp (M : SpMap) : TopOut → TopOut
  | .result r final => .result ⟨r.output.map (Val.mapSp M), r.errs.map (Err.mapSp M)⟩ (final.mapSp M)
  | .panic w => .panic w
  | .oof => .oof

theorem parseTop_kindSim_gen {M : SpMap} {env env' : Env} (h : KindRel M env env') (n : Nat) (m : Mode) (g : G) :
    parseTop n env' m (g.mapConst M) = (parseTop n env m g).mapSp M := by
  have hr : run n env' m (.thenIgnore (g.mapConst M) .end_) St.init = _ :=
    run_kindSim_gen h n m (.thenIgnore g .end_) St.init
  simp only [parseTop, hr, h.ek, h.span]
  cases run n env m (.thenIgnore g .end_) St.init with
  | ok v st =>
    simp only [Out.mapSp_ok, TopOut.mapSp, St.mapSp_errs, List.map_map, Option.map_some]
    rfl
  | fail st =>
    simp only [Out.mapSp_fail, TopOut.mapSp, St.mapSp_errs, St.mapSp_alt, St.mapSp_pos, List.map_map, Option.map_none,
      List.map_append, List.map_cons, List.map_nil]
    cases st.alt with
    | none => simp only [Option.map_none, h.ef]; rfl
    | some a => rfl
  | panic w => rfl
  | oof => rfl

/-- the re-basing from token indices to the spans / offsets of `env'`; errors of the zero-sized error type
    (`ek = .empty`) carry the constant span `(0, 0)` under every kind, so their spans are left alone -/
def Env.rebase (env' : Env) : SpMap where
  fe := if env'.ek = .empty then id else fun p => env'.mkSpan p.1 p.2
  f := fun p => env'.mkSpan p.1 p.2
  o := env'.off

theorem Env.rebase_of_ne_empty (env' : Env) (hk : env'.ek ≠ .empty) :
    env'.rebase = ⟨fun p => env'.mkSpan p.1 p.2, fun p => env'.mkSpan p.1 p.2, env'.off⟩ := by
  simp only [Env.rebase, if_neg hk]

theorem Env.rebase_ops (env' : Env) :
    (∀ exp found p, env'.ek.expectedFound exp found (env'.rebase.f p)
        = (env'.ek.expectedFound exp found p).mapSp env'.rebase)
    ∧ (∀ p msg, env'.ek.userErr (env'.rebase.f p) msg = (env'.ek.userErr p msg).mapSp env'.rebase)
    ∧ (∀ a l p, env'.ek.inContext (a.mapSp env'.rebase) l (env'.rebase.f p)
        = (env'.ek.inContext a l p).mapSp env'.rebase) := by
  unfold Env.rebase
  cases env'.ek with
  | rich =>
    refine ⟨fun _ _ _ => rfl, fun _ _ => rfl, fun a l p => ?_⟩
    simp only [ErrKind.inContext, Err.mapSp_ctx, List.all_map, Function.comp_def, apply_ite (Err.mapSp _)]
    simp [Err.mapSp]
  | _ => exact ⟨fun _ _ _ => rfl, fun _ _ => rfl, fun _ _ _ => rfl⟩

theorem kindRel_of_slice (env : Env) (hs : env.kind = .slice) (k : InKind) (ts : List (Nat × Nat)) (e : Nat × Nat)
    (hd : constOkL env.defs = true) :
    KindRel ({ env with kind := k, tspans := ts, eoi := e } : Env).rebase env
      { env with kind := k, tspans := ts, eoi := e } :=
  have hops := Env.rebase_ops { env with kind := k, tspans := ts, eoi := e }
  { toks := rfl
    ek := rfl
    defs := (mapConstL_of_constOkL _ _ hd).symm
    memoOn := rfl
    span := fun i j => by simp only [Env.mkSpan, hs, Env.rebase]
    off := fun i => by simp only [Env.off, hs, Env.rebase]
    ef := hops.1
    ue := hops.2.1
    ic := hops.2.2 }

/-- **C10, functional simulation.**  `env` presents the tokens index-based (`.slice`); `env'` presents the same tokens
    under any kind `k` (with any per-token spans `ts` and end-of-input span `e`).  For every grammar whose constants
    carry no span value (`constOk`; likewise the definition table), every fuel, mode and start state: the run under
    `env'` from the re-based state is the re-based run under `env`.  The error type is not the zero-sized one. -/
theorem run_kindSim_partial (env : Env) (hs : env.kind = .slice) (k : InKind) (ts : List (Nat × Nat)) (e : Nat × Nat)
    (hek : env.ek ≠ .empty) (hd : constOkL env.defs = true)
    (n : Nat) (m : Mode) (g : G) (hg : g.constOk = true) (st : St) :
    let env' : Env := { env with kind := k, tspans := ts, eoi := e }
    let M : SpMap := ⟨fun p => env'.mkSpan p.1 p.2, fun p => env'.mkSpan p.1 p.2, env'.off⟩
    run n env' m g (st.mapSp M) = (run n env m g st).mapSp M := by
  intro env' M
  have h := kindRel_of_slice env hs k ts e hd
  rw [Env.rebase_of_ne_empty env' hek] at h
  have := run_kindSim_gen h n m g st
  rwa [G.mapConst_of_constOk _ g hg] at this

/-- the same for every error type: with the zero-sized error type the spans inside errors are not re-based
    (`Env.rebase` leaves them alone), the spans inside values are -/
theorem run_kindSim_partial' (env : Env) (hs : env.kind = .slice) (k : InKind) (ts : List (Nat × Nat)) (e : Nat × Nat)
    (hd : constOkL env.defs = true) (n : Nat) (m : Mode) (g : G) (hg : g.constOk = true) (st : St) :
    let env' : Env := { env with kind := k, tspans := ts, eoi := e }
    run n env' m g (st.mapSp env'.rebase) = (run n env m g st).mapSp env'.rebase := by
  intro env'
  have := run_kindSim_gen (kindRel_of_slice env hs k ts e hd) n m g st
  rwa [G.mapConst_of_constOk _ g hg] at this

/-- C10 at the top level: output value and error list of `parse` / `check` are those of the index-based input,
    re-based -/
theorem parseTop_kindSim_partial (env : Env) (hs : env.kind = .slice) (k : InKind) (ts : List (Nat × Nat))
    (e : Nat × Nat) (hek : env.ek ≠ .empty) (hd : constOkL env.defs = true)
    (n : Nat) (m : Mode) (g : G) (hg : g.constOk = true) :
    let env' : Env := { env with kind := k, tspans := ts, eoi := e }
    let M : SpMap := ⟨fun p => env'.mkSpan p.1 p.2, fun p => env'.mkSpan p.1 p.2, env'.off⟩
    parseTop n env' m g = (parseTop n env m g).mapSp M := by
  intro env' M
  have h := kindRel_of_slice env hs k ts e hd
  rw [Env.rebase_of_ne_empty env' hek] at h
  have := parseTop_kindSim_gen h n m g
  rwa [G.mapConst_of_constOk _ g hg] at this

theorem parseTop_kindSim_partial' (env : Env) (hs : env.kind = .slice) (k : InKind) (ts : List (Nat × Nat))
    (e : Nat × Nat) (hd : constOkL env.defs = true) (n : Nat) (m : Mode) (g : G) (hg : g.constOk = true) :
    let env' : Env := { env with kind := k, tspans := ts, eoi := e }
    parseTop n env' m g = (parseTop n env m g).mapSp env'.rebase := by
  intro env'
  have := parseTop_kindSim_gen (kindRel_of_slice env hs k ts e hd) n m g
  rwa [G.mapConst_of_constOk _ g hg] at this

section examples

/-- "éa" as tokens, index-based -/
def kxSlice : Env := { toks := [0xe9, 0x61] }
/-- the same as a `&str`: `é` is two bytes wide -/
def kxStr : Env := { kxSlice with kind := .str }
/-- the same through `Input::map`, every token with its own span -/
def kxMapped : Env := { kxSlice with kind := .mapped, tspans := [(10, 14), (20, 21)], eoi := (30, 30) }

def kxG : G := .mapWithSpan (.then_ (.toSpan .any) (.then_ (.toSlice .any) (.to (.tag 3 (.nat 1)) .empty)))

example : kxG.constOk = true := by decide

/-- a start state that is not the initial one: a secondary error, a pending error with a context entry, a context
    value holding a span and a slice, a memo entry, a ghost-log entry.  No side condition on it is needed. -/
def kxSt : St :=
  { pos := 0
    errs := [⟨0, ⟨(0, 1), .custom 4, []⟩⟩]
    alt := some ⟨0, ⟨(0, 1), .ef [.any] none, [(.label 2, (0, 2))]⟩⟩
    ctx := .pair (.span 0 1) (.slice 1 2)
    memo := [((0, 7), some ⟨1, ⟨(1, 2), .ef [] none, []⟩⟩)]
    log := [⟨0, ⟨(0, 0), .ef [] none, []⟩⟩] }

/-- the theorem at this state, `&str` presentation -/
example :
    let M : SpMap := ⟨fun p => kxStr.mkSpan p.1 p.2, fun p => kxStr.mkSpan p.1 p.2, kxStr.off⟩
    run 9 kxStr .emit (.mapWithCtx kxG) (kxSt.mapSp M) = (run 9 kxSlice .emit (.mapWithCtx kxG) kxSt).mapSp M :=
  run_kindSim_partial kxSlice rfl .str [] (0, 0) (by decide) rfl 9 .emit (.mapWithCtx kxG) (by decide) kxSt

/-- what the two runs are: token indices `0..1`, `1..2`, `0..2` against byte offsets `0..2`, `2..3`, `0..3` -/
example : run 9 kxSlice .emit kxG St.init
    = .ok (.pair (.pair (.span 0 1) (.pair (.slice 1 2) (.tag 3 (.nat 1)))) (.span 0 2)) { pos := 2, insp := [0xe9, 0x61] } := by
  decide
example : run 9 kxStr .emit kxG St.init
    = .ok (.pair (.pair (.span 0 2) (.pair (.slice 2 3) (.tag 3 (.nat 1)))) (.span 0 3)) { pos := 2, insp := [0xe9, 0x61] } := by
  decide
example : run 9 kxMapped .emit kxG St.init
    = .ok (.pair (.pair (.span 10 14) (.pair (.slice 1 2) (.tag 3 (.nat 1)))) (.span 10 21)) { pos := 2, insp := [0xe9, 0x61] } := by
  decide

/-- why the class: a constant that is itself a span is returned as it is under every kind, whereas re-basing the
    index-based result would move it.  (`run_kindSim_gen` says what holds instead: the constant has to be re-based
    as well.) -/
example :
    let M : SpMap := ⟨fun p => kxStr.mkSpan p.1 p.2, fun p => kxStr.mkSpan p.1 p.2, kxStr.off⟩
    run 2 kxStr .emit (.to (.span 0 1) .empty) (St.init.mapSp M)
      ≠ (run 2 kxSlice .emit (.to (.span 0 1) .empty) St.init).mapSp M := by
  decide

/-- why `ek ≠ .empty` in `run_kindSim_partial`: the zero-sized error type reports `(0, 0)` under every kind, whereas
    re-basing `(0, 0)` for the mapped presentation gives the start of the first token -/
example :
    let env : Env := { kxSlice with ek := .empty }
    let env' : Env := { kxMapped with ek := .empty }
    let M : SpMap := ⟨fun p => env'.mkSpan p.1 p.2, fun p => env'.mkSpan p.1 p.2, env'.off⟩
    run 2 env' .emit .end_ (St.init.mapSp M) ≠ (run 2 env .emit .end_ St.init).mapSp M := by
  decide

end examples

end Chumsky

#print axioms Chumsky.run_kindSim_gen
#print axioms Chumsky.parseTop_kindSim_gen
#print axioms Chumsky.run_kindSim_partial
#print axioms Chumsky.run_kindSim_partial'
#print axioms Chumsky.parseTop_kindSim_partial
#print axioms Chumsky.parseTop_kindSim_partial'
#print axioms Chumsky.G.mapConst_of_constOk
