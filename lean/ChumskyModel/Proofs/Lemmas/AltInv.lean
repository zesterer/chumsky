/-
  Proofs/Lemmas/AltInv.lean — the pending-error invariant behind C06.

  For every grammar of the class `c06` (no `not`, no recovery, no `labelled`, no `map_err`, no `memoized`) and
  every error kind except `EmptyErr`:

    the pending primary error after a run  ≈  the pending error before the run, merged (in order, with the
    priority rule of `add_alt`) with the failure events logged during the run            (`AltRel`)

  and a failing run logs at least one event (`AltRelF`).  At the top level (`alt = none`, `log = []`) the
  reported primary error therefore is (≈) `summ ek log`, and the characterisation of `summ` from `Summ.lean`
  gives C06: furthest position, union of the expected sets, custom error preserved, span of the first event.

  Layout: relation algebra; the event operations; the two relations are closed under what `RunInv.lean` asks
  for, which gives `step`, `stepNext`, `stepMk` and the induction on the fuel; top level and corollaries.
-/
import ChumskyModel.Proofs.Lemmas.Summ
import ChumskyModel.Proofs.Lemmas.RunInv
namespace Chumsky

/-- the pending error after the run ≈ the pending error before, merged with the summary of the failure events
    logged during the run -/
structure AltRel (ek : ErrKind) (st st' : St) : Prop where
  log : ∃ evs, st'.log = st.log ++ evs ∧ OptLoc.equiv st'.alt (foldAlt ek st.alt evs)

/-- the same, and at least one event was logged (what a *failing* run guarantees) -/
structure AltRelF (ek : ErrKind) (st st' : St) : Prop where
  log : ∃ evs, evs ≠ [] ∧ st'.log = st.log ++ evs ∧ OptLoc.equiv st'.alt (foldAlt ek st.alt evs)

theorem AltRel.refl (ek : ErrKind) (st : St) : AltRel ek st st :=
  ⟨[], by simp, OptLoc.equiv_refl _⟩

theorem AltRel.trans {ek : ErrKind} {a b c : St} (h1 : AltRel ek a b) (h2 : AltRel ek b c) : AltRel ek a c := by
  obtain ⟨e1, l1, q1⟩ := h1.log
  obtain ⟨e2, l2, q2⟩ := h2.log
  refine ⟨e1 ++ e2, by rw [l2, l1, List.append_assoc], ?_⟩
  rw [foldAlt_append]
  exact OptLoc.equiv_trans q2 (foldAlt_congr _ q1)

theorem AltRel.congr {ek : ErrKind} {a b a' b' : St} (h : AltRel ek a b)
    (ha : a'.alt = a.alt) (hal : a'.log = a.log) (hb : b'.alt = b.alt) (hbl : b'.log = b.log) :
    AltRel ek a' b' := by
  obtain ⟨e, l, q⟩ := h.log
  exact ⟨e, by rw [hbl, hal, l], by rw [hb, ha]; exact q⟩

theorem AltRel.log_le {ek : ErrKind} {a b : St} (h : AltRel ek a b) : a.log.length ≤ b.log.length := by
  obtain ⟨e, l, _⟩ := h.log
  rw [l, List.length_append]
  exact Nat.le_add_right _ _

/-- `AltRelF` is `AltRel` with a log that has grown: the facts about `AltRelF` below all come from this -/
theorem AltRelF.iff {ek : ErrKind} {a b : St} :
    AltRelF ek a b ↔ AltRel ek a b ∧ a.log.length < b.log.length := by
  constructor
  · rintro ⟨e, hne, l, q⟩
    refine ⟨⟨e, l, q⟩, ?_⟩
    rw [l, List.length_append]
    exact Nat.lt_add_of_pos_right (List.length_pos_iff.mpr hne)
  · rintro ⟨⟨e, l, q⟩, hlt⟩
    refine ⟨e, ?_, l, q⟩
    rintro rfl
    rw [l, List.append_nil] at hlt
    exact Nat.lt_irrefl _ hlt

theorem AltRelF.toRel {ek : ErrKind} {st st' : St} (h : AltRelF ek st st') : AltRel ek st st' :=
  (AltRelF.iff.mp h).1

theorem AltRel.transF {ek : ErrKind} {a b c : St} (h1 : AltRel ek a b) (h2 : AltRelF ek b c) : AltRelF ek a c :=
  AltRelF.iff.mpr ⟨h1.trans h2.toRel, Nat.lt_of_le_of_lt h1.log_le (AltRelF.iff.mp h2).2⟩

theorem AltRelF.trans {ek : ErrKind} {a b c : St} (h1 : AltRelF ek a b) (h2 : AltRel ek b c) : AltRelF ek a c :=
  AltRelF.iff.mpr ⟨h1.toRel.trans h2, Nat.lt_of_lt_of_le (AltRelF.iff.mp h1).2 h2.log_le⟩

theorem AltRelF.congr {ek : ErrKind} {a b a' b' : St} (h : AltRelF ek a b)
    (ha : a'.alt = a.alt) (hal : a'.log = a.log) (hb : b'.alt = b.alt) (hbl : b'.log = b.log) :
    AltRelF ek a' b' :=
  AltRelF.iff.mpr ⟨h.toRel.congr ha hal hb hbl, by rw [hal, hbl]; exact (AltRelF.iff.mp h).2⟩

theorem AltRel.right {ek : ErrKind} {a b b' : St} (h : AltRel ek a b)
    (hb : b'.alt = b.alt) (hbl : b'.log = b.log) : AltRel ek a b' := h.congr rfl rfl hb hbl
theorem AltRelF.right {ek : ErrKind} {a b b' : St} (h : AltRelF ek a b)
    (hb : b'.alt = b.alt) (hbl : b'.log = b.log) : AltRelF ek a b' := h.congr rfl rfl hb hbl
theorem AltRel.of_eq {ek : ErrKind} {a b : St} (hb : b.alt = a.alt) (hbl : b.log = a.log) : AltRel ek a b :=
  (AltRel.refl ek a).right hb hbl

@[simp] theorem St.rewind_alt (st : St) (c : Chk) : (st.rewind c).alt = st.alt := rfl
@[simp] theorem St.rewind_log (st : St) (c : Chk) : (st.rewind c).log = st.log := rfl
@[simp] theorem St.rewindInput_alt (st : St) (c : Chk) : (st.rewindInput c).alt = st.alt := rfl
@[simp] theorem St.rewindInput_log (st : St) (c : Chk) : (st.rewindInput c).log = st.log := rfl
@[simp] theorem St.emit_alt (st : St) (p : Nat) (e : Err) : (st.emit p e).alt = st.alt := rfl
@[simp] theorem St.emit_log (st : St) (p : Nat) (e : Err) : (st.emit p e).log = st.log := rfl
@[simp] theorem St.next_log (env : Env) (st : St) : (st.next env).2.log = st.log := by
  unfold St.next; split <;> rfl

theorem St.addAlt_log (env : Env) (st : St) (exp : List Pat) (found : Option Nat) (span : Nat × Nat) :
    (st.addAlt env exp found span).log = st.log ++ [⟨st.pos, env.ek.expectedFound exp found span⟩] := by
  unfold St.addAlt
  split <;> rfl

theorem St.addAltErr_log (env : Env) (st : St) (at_ : Nat) (e : Err) :
    (st.addAltErr env at_ e).log = st.log ++ [⟨at_, e⟩] := by
  unfold St.addAltErr
  split <;> rfl

theorem St.addAltErr_alt {env : Env} (hek : env.ek ≠ .empty) (st : St) (at_ : Nat) (e : Err) :
    (st.addAltErr env at_ e).alt = St.mergeAlt env.ek st.alt at_ e := by
  unfold St.addAltErr
  split
  · next h => exact absurd h hek
  · rfl

theorem St.readdAlt_log (env : Env) (st : St) (new : Option Loc) : (St.readdAlt env st new).log = st.log := by
  cases new with
  | none => rfl
  | some n =>
    simp only [St.readdAlt]
    split <;> rfl

theorem St.readdAlt_alt {env : Env} (hek : env.ek ≠ .empty) (st : St) (n : Loc) :
    (St.readdAlt env st (some n)).alt = St.mergeAlt env.ek st.alt n.pos n.err := by
  show (match env.ek with
    | .empty => { st with alt := some n }
    | ek => { st with alt := St.mergeAlt ek st.alt n.pos n.err }).alt = _
  split
  · next h => exact absurd h hek
  · rfl

/-- `add_alt` logs exactly the event it merges -/
theorem addAlt_F {env : Env} (hek : env.ek ≠ .empty) (st : St) (exp : List Pat) (found : Option Nat)
    (span : Nat × Nat) : AltRelF env.ek st (st.addAlt env exp found span) :=
  ⟨[⟨st.pos, env.ek.expectedFound exp found span⟩], by simp, St.addAlt_log .., addAlt_alt_equiv env st exp found span hek⟩

theorem addAlt_F' {env : Env} (hek : env.ek ≠ .empty) {st0 st : St} (exp : List Pat) (found : Option Nat)
    (span : Nat × Nat) (ha : st.alt = st0.alt) (hl : st.log = st0.log) :
    AltRelF env.ek st0 (st.addAlt env exp found span) :=
  (addAlt_F hek st exp found span).congr ha.symm hl.symm rfl rfl

theorem addAltErr_F {env : Env} (hek : env.ek ≠ .empty) (st : St) (at_ : Nat) (e : Err) :
    AltRelF env.ek st (st.addAltErr env at_ e) :=
  ⟨[⟨at_, e⟩], by simp, St.addAltErr_log .., by rw [St.addAltErr_alt hek]; exact OptLoc.equiv_refl _⟩

theorem addAltErr_F' {env : Env} (hek : env.ek ≠ .empty) {st0 st : St} (at_ : Nat) (e : Err)
    (ha : st.alt = st0.alt) (hl : st.log = st0.log) : AltRelF env.ek st0 (st.addAltErr env at_ e) :=
  (addAltErr_F hek st at_ e).congr ha.symm hl.symm rfl rfl

theorem summ_eq_none {ek : ErrKind} {evs : List Loc} (h : summ ek evs = none) : evs = [] := by
  cases evs with
  | nil => rfl
  | cons x xs =>
    have := foldAlt_isSome (ek := ek) (alt := none) (evs := x :: xs) (Or.inl (List.cons_ne_nil _ _))
    rw [show foldAlt ek none (x :: xs) = summ ek (x :: xs) from rfl, h] at this
    cases this

/-- putting back a taken pending error that is (≈) the summary of `evs` = replaying `evs` -/
theorem readdAlt_fold {env : Env} (hek : env.ek ≠ .empty) (st : St) {new : Option Loc} {evs : List Loc}
    (h : OptLoc.equiv new (summ env.ek evs)) :
    OptLoc.equiv (St.readdAlt env st new).alt (foldAlt env.ek st.alt evs) := by
  cases new with
  | none =>
    cases hs : summ env.ek evs with
    | some n' => rw [hs] at h; exact h.elim
    | none =>
      rw [summ_eq_none hs]
      exact OptLoc.equiv_refl _
  | some n =>
    cases hs : summ env.ek evs with
    | none => rw [hs] at h; exact h.elim
    | some n' =>
      rw [hs] at h
      rw [St.readdAlt_alt hek]
      exact OptLoc.equiv_trans (mergeAlt_congr_loc (OptLoc.equiv_refl _) h) (mergeAlt_summ _ hs)

/-- the `try_map` / sheltering pattern: run from `alt := none`, then put the old error back and re-add the new one -/
theorem shelter_rel {env : Env} (hek : env.ek ≠ .empty) {st st1 : St}
    (h : AltRel env.ek { st with alt := none } st1) :
    AltRel env.ek st (St.readdAlt env { st1 with alt := st.alt } st1.alt) := by
  obtain ⟨evs, hl, he⟩ := h.log
  exact ⟨evs, by rw [St.readdAlt_log]; exact hl, readdAlt_fold hek _ he⟩

theorem shelter_relF {env : Env} (hek : env.ek ≠ .empty) {st st1 : St}
    (h : AltRelF env.ek { st with alt := none } st1) :
    AltRelF env.ek st (St.readdAlt env { st1 with alt := st.alt } st1.alt) :=
  AltRelF.iff.mpr ⟨shelter_rel hek h.toRel, by rw [St.readdAlt_log]; exact (AltRelF.iff.mp h).2⟩

def Out.AR (ek : ErrKind) (st : St) : Out → Prop
  | .ok _ st' => AltRel ek st st'
  | .fail st' => AltRelF ek st st'
  | _ => True

def ItOut.AR (ek : ErrKind) (st : St) : ItOut → Prop
  | .some _ st' _ => AltRel ek st st'
  | .done st' _ => AltRel ek st st'
  | .fail st' => AltRelF ek st st'
  | _ => True

def MkOut.AR (ek : ErrKind) (st : St) : MkOut → Prop
  | .ok _ st' => AltRel ek st st'
  | .fail st' => AltRelF ek st st'
  | _ => True

@[simp] theorem Out.AR_ok {ek st v st'} : (Out.ok v st').AR ek st ↔ AltRel ek st st' := Iff.rfl
@[simp] theorem Out.AR_fail {ek st st'} : (Out.fail st').AR ek st ↔ AltRelF ek st st' := Iff.rfl
@[simp] theorem Out.AR_panic {ek st w} : (Out.panic w).AR ek st ↔ True := Iff.rfl
@[simp] theorem Out.AR_oof {ek st} : Out.oof.AR ek st ↔ True := Iff.rfl
@[simp] theorem ItOut.AR_some {ek st v st' i} : (ItOut.some v st' i).AR ek st ↔ AltRel ek st st' := Iff.rfl
@[simp] theorem ItOut.AR_done {ek st st' i} : (ItOut.done st' i).AR ek st ↔ AltRel ek st st' := Iff.rfl
@[simp] theorem ItOut.AR_fail {ek st st'} : (ItOut.fail st').AR ek st ↔ AltRelF ek st st' := Iff.rfl
@[simp] theorem ItOut.AR_panic {ek st w} : (ItOut.panic w).AR ek st ↔ True := Iff.rfl
@[simp] theorem ItOut.AR_oof {ek st} : ItOut.oof.AR ek st ↔ True := Iff.rfl
@[simp] theorem MkOut.AR_ok {ek st i st'} : (MkOut.ok i st').AR ek st ↔ AltRel ek st st' := Iff.rfl
@[simp] theorem MkOut.AR_fail {ek st st'} : (MkOut.fail st').AR ek st ↔ AltRelF ek st st' := Iff.rfl
@[simp] theorem MkOut.AR_panic {ek st w} : (MkOut.panic w).AR ek st ↔ True := Iff.rfl
@[simp] theorem MkOut.AR_oof {ek st} : MkOut.oof.AR ek st ↔ True := Iff.rfl

/-- only `alt` and `log` of the state after the run matter, so every rewind is harmless -/
def altRunRel (ek : ErrKind) : RunRel where
  ok := AltRel ek
  fail := AltRelF ek
  nec := false
  refl := AltRel.refl ek
  trans := AltRel.trans
  transF := AltRel.transF
  okSame h s := h.right s.2.2.1 s.2.2.2
  failSame h s := h.right s.2.2.1 s.2.2.2
  recover h := h.toRel.right rfl rfl
  failRewind h := h.right rfl rfl
  rewindInput _ h := h.right rfl rfl

/-- every event of the class is logged when it is merged; `try_map` is `shelter_rel` -/
def altRunInv {env : Env} (hek : env.ek ≠ .empty) : RunInv env where
  toRunRel := altRunRel env.ek
  pull st := AltRel.of_eq (next_alt env st) (St.next_log env st)
  expected exp h := h.transF (addAlt_F' hek exp _ _ rfl rfl)
  user _ h _ := h.transF (addAltErr_F hek _ _ _)
  emitted _ _ h := h.right rfl rfl
  shelterOk := shelter_rel hek
  shelterFail := shelter_relF hek
  shelterUser _ _ := addAltErr_F' hek _ _ rfl rfl
  emptyChoice _ st := addAlt_F hek st _ _ _

theorem MkOut.AR.trans {ek : ErrKind} {st0 st : St} {o : MkOut} (h0 : AltRel ek st0 st) (h : o.AR ek st) :
    o.AR ek st0 :=
  MkOut.Sat.trans (I := altRunRel ek) h0 h

theorem Out.AR.andThen {ek : ErrKind} {st : St} {o : Out} {k : Val → St → Out} (h : o.AR ek st)
    (hk : ∀ v st1, (k v st1).AR ek st1) : (o.andThen k).AR ek st :=
  Out.Sat.andThen (I := altRunRel ek) h hk

theorem ItOut.AR.left {ek : ErrKind} {st st0 : St} {o : ItOut} (h : o.AR ek st)
    (ha : st0.alt = st.alt) (hl : st0.log = st.log) : o.AR ek st0 :=
  ItOut.Sat.trans (I := altRunRel ek) (AltRel.of_eq ha.symm hl.symm) h

def ARR (env : Env) (R : Runner) : Prop := ∀ m g st, g.c06 = true → (R env m g st).AR env.ek st
def ARN (env : Env) (N : NextRunner) : Prop := ∀ m it st ist, it.c06 = true → (N env m it st ist).AR env.ek st
def ARK (env : Env) (K : MkRunner) : Prop := ∀ m it st, it.c06 = true → (K env m it st).AR env.ek st

theorem ARR.sat {env : Env} {R : Runner} (h : ARR env R) : SatR (altRunRel env.ek) env R :=
  fun m g st hg => h m g st (g.cls_false.symm.trans hg)
theorem ARN.sat {env : Env} {N : NextRunner} (h : ARN env N) : SatN (altRunRel env.ek) env N :=
  fun m it st ist hit => h m it st ist (it.cls_false.symm.trans hit)
theorem ARK.sat {env : Env} {K : MkRunner} (h : ARK env K) : SatK (altRunRel env.ek) env K :=
  fun m it st hit => h m it st (it.cls_false.symm.trans hit)

theorem step_AR {env : Env} (hek : env.ek ≠ .empty) (hdefs : ∀ d ∈ env.defs, d.c06 = true) {R : Runner}
    {N : NextRunner} {K : MkRunner} (hR : ARR env R) (hN : ARN env N) (hK : ARK env K) (L : Nat) :
    ARR env (step R N K L) :=
  fun m g st hg => step_sat (altRunInv hek) (fun d hd => d.cls_false.trans (hdefs d hd)) hR.sat hN.sat hK.sat L m g st
    (g.cls_false.trans hg)

theorem stepNext_AR {env : Env} {R : Runner} {N : NextRunner} {K : MkRunner} (hR : ARR env R) (hN : ARN env N)
    (hK : ARK env K) : ARN env (stepNext R N K) :=
  fun m it st ist hit => stepNext_sat hR.sat hN.sat hK.sat m it st ist (it.cls_false.trans hit)

theorem stepMk_AR {env : Env} (hek : env.ek ≠ .empty) {R : Runner} {K : MkRunner} (hR : ARR env R)
    (hK : ARK env K) : ARK env (stepMk R K) :=
  fun m it st hit => stepMk_sat (altRunInv hek) hR.sat hK.sat m it st (it.cls_false.trans hit)

theorem run_AR_all (env : Env) (hek : env.ek ≠ .empty) (hdefs : ∀ d ∈ env.defs, d.c06 = true) (n : Nat) :
    ARR env (run n) ∧ ARN env (next n) ∧ ARK env (mkIter n) := by
  induction n with
  | zero => exact ⟨fun _ _ _ _ => trivial, fun _ _ _ _ _ => trivial, fun _ _ _ _ => trivial⟩
  | succ n ih =>
    exact ⟨step_AR hek hdefs ih.1 ih.2.1 ih.2.2 n, stepNext_AR ih.1 ih.2.1 ih.2.2, stepMk_AR hek ih.1 ih.2.2⟩

/-- the invariant, with the strict form on failure -/
theorem run_AR (n : Nat) (env : Env) (hek : env.ek ≠ .empty) (hdefs : ∀ d ∈ env.defs, d.c06 = true)
    (m : Mode) (g : G) (hg : g.c06 = true) (st : St) : (run n env m g st).AR env.ek st :=
  (run_AR_all env hek hdefs n).1 m g st hg

/-- **the pending-error invariant**: after a run of a `c06` grammar, successful or not, the pending error is
    (≈) the pending error before the run merged with the failure events logged during the run -/
theorem run_altRel (n : Nat) (env : Env) (hek : env.ek ≠ .empty) (hdefs : ∀ d ∈ env.defs, d.c06 = true)
    (m : Mode) (g : G) (hg : g.c06 = true) (st : St) :
    match run n env m g st with
    | .ok _ st' => AltRel env.ek st st'
    | .fail st' => AltRel env.ek st st'
    | _ => True := by
  have h := run_AR n env hek hdefs m g hg st
  generalize run n env m g st = o at h ⊢
  cases o with
  | ok v st' => exact h
  | fail st' => exact AltRelF.toRel h
  | _ => trivial

theorem run_fail_altRelF (n : Nat) (env : Env) (hek : env.ek ≠ .empty) (hdefs : ∀ d ∈ env.defs, d.c06 = true)
    (m : Mode) (g : G) (hg : g.c06 = true) (st st' : St) (h : run n env m g st = .fail st') :
    AltRelF env.ek st st' := by
  have := run_AR n env hek hdefs m g hg st
  rw [h] at this
  exact this

theorem next_altRel (n : Nat) (env : Env) (hek : env.ek ≠ .empty) (hdefs : ∀ d ∈ env.defs, d.c06 = true)
    (m : Mode) (it : It) (hit : it.c06 = true) (st : St) (ist : ItSt) :
    match next n env m it st ist with
    | .some _ st' _ => AltRel env.ek st st'
    | .done st' _ => AltRel env.ek st st'
    | .fail st' => AltRel env.ek st st'
    | _ => True := by
  have h := (run_AR_all env hek hdefs n).2.1 m it st ist hit
  generalize next n env m it st ist = o at h ⊢
  cases o with
  | some v st' i => exact h
  | done st' i => exact h
  | fail st' => exact AltRelF.toRel h
  | _ => trivial

theorem mkIter_altRel (n : Nat) (env : Env) (hek : env.ek ≠ .empty) (hdefs : ∀ d ∈ env.defs, d.c06 = true)
    (m : Mode) (it : It) (hit : it.c06 = true) (st : St) :
    match mkIter n env m it st with
    | .ok _ st' => AltRel env.ek st st'
    | .fail st' => AltRel env.ek st st'
    | _ => True := by
  have h := (run_AR_all env hek hdefs n).2.2 m it st hit
  generalize mkIter n env m it st = o at h ⊢
  cases o with
  | ok i st' => exact h
  | fail st' => exact AltRelF.toRel h
  | _ => trivial

theorem AltRelF.init {ek : ErrKind} {f : St} (h : AltRelF ek St.init f) :
    ∃ l l', f.alt = some l ∧ summ ek f.log = some l' ∧ l.equiv l' := by
  obtain ⟨evs, hne, hl, he⟩ := h.log
  have hlog : f.log = evs := by rw [hl]; rfl
  have hs : (summ ek evs).isSome := foldAlt_isSome (Or.inl hne)
  obtain ⟨l', hl'⟩ := Option.isSome_iff_exists.mp hs
  have he' : OptLoc.equiv f.alt (some l') := by
    have : foldAlt ek St.init.alt evs = summ ek evs := rfl
    rw [this, hl'] at he
    exact he
  cases hf : f.alt with
  | none => rw [hf] at he'; exact he'.elim
  | some l =>
    rw [hf] at he'
    exact ⟨l, l', rfl, by rw [hlog]; exact hl', he'⟩

/-- **C06, core**: when the parse fails, the last reported error is the pending error `l` of the final state,
    and `l` is (≈) the summary of ALL failure events of the parse -/
theorem parseTop_primary_error (n : Nat) (env : Env) (hek : env.ek ≠ .empty)
    (hdefs : ∀ d ∈ env.defs, d.c06 = true) (m : Mode) (g : G) (hg : g.c06 = true) (r : ParseResult) (f : St)
    (h : parseTop n env m g = .result r f) (ho : r.output = none) :
    ∃ l l', f.alt = some l ∧ summ env.ek f.log = some l' ∧ l.equiv l' ∧
      r.errs = f.errs.map (·.err) ++ [l.err] := by
  rcases Out.top_result (parseTop_eq_top n env m g ▸ h) with ⟨v, _, rfl⟩ | ⟨hrun, rfl⟩
  · cases ho
  · have hF := run_fail_altRelF n env hek hdefs m (.thenIgnore g .end_) (Bool.and_eq_true_iff.mpr ⟨hg, rfl⟩)
      _ _ hrun
    obtain ⟨l, l', hl, hs, he⟩ := hF.init
    refine ⟨l, l', hl, hs, he, ?_⟩
    show _ ++ [_] = _
    rw [hl]

/-- **C06, position**: the reported error lies exactly at the furthest position at which anything failed -/
theorem c06_furthest (n : Nat) (env : Env) (hek : env.ek ≠ .empty)
    (hdefs : ∀ d ∈ env.defs, d.c06 = true) (m : Mode) (g : G) (hg : g.c06 = true) (r : ParseResult) (f : St)
    (h : parseTop n env m g = .result r f) (ho : r.output = none) :
    ∃ l, f.alt = some l ∧ r.errs = f.errs.map (·.err) ++ [l.err] ∧
      (∀ ev ∈ f.log, ev.pos ≤ l.pos) ∧ (∃ ev ∈ f.log, ev.pos = l.pos) := by
  obtain ⟨l, l', hl, hs, he, hr⟩ := parseTop_primary_error n env hek hdefs m g hg r f h ho
  refine ⟨l, hl, hr, ?_, ?_⟩
  · intro ev hev
    rw [he.1]
    exact (foldAlt_pos_ge hs).1 ev hev
  · rcases foldAlt_pos_mem hs with ⟨ev, hev, hp⟩ | ⟨a, ha, _⟩
    · exact ⟨ev, hev, by rw [he.1]; exact hp⟩
    · cases ha

/-- `Rich`, no custom error at the furthest position: the expected set is the union of the expected sets of all
    failures at that position -/
theorem c06_expected_union (n : Nat) (env : Env) (hek : env.ek = .rich)
    (hdefs : ∀ d ∈ env.defs, d.c06 = true) (m : Mode) (g : G) (hg : g.c06 = true) (r : ParseResult) (f : St)
    (h : parseTop n env m g = .result r f) (ho : r.output = none) :
    ∃ l, f.alt = some l ∧ r.errs = f.errs.map (·.err) ++ [l.err] ∧
      ((∀ ev ∈ f.log, ev.pos = l.pos → ∀ msg, ev.err.reason ≠ .custom msg) →
        ∃ exp fo, l.err.reason = .ef exp fo ∧
          ∀ x, x ∈ exp ↔ ∃ ev ∈ f.log, ev.pos = l.pos ∧ ∃ ex fo', ev.err.reason = .ef ex fo' ∧ x ∈ ex) := by
  have hek' : env.ek ≠ .empty := by rw [hek]; decide
  obtain ⟨l, l', hl, hs, he, hr⟩ := parseTop_primary_error n env hek' hdefs m g hg r f h ho
  refine ⟨l, hl, hr, ?_⟩
  intro hn
  rw [hek] at hs
  rw [he.1] at hn ⊢
  obtain ⟨exp', fo', hr', hmem⟩ := summ_expected hs hn
  have hq : l.err.reason.equiv l'.err.reason := he.2.2
  rw [hr'] at hq
  cases hlr : l.err.reason with
  | custom msg => rw [hlr] at hq; exact hq.elim
  | ef exp fo =>
    rw [hlr] at hq
    refine ⟨exp, fo, rfl, ?_⟩
    intro x
    rw [← hmem x]
    exact hq x

/-- `Rich`, some custom (user-supplied) error at the furthest position: the first one is what is reported -/
theorem c06_custom_preserved (n : Nat) (env : Env) (hek : env.ek = .rich)
    (hdefs : ∀ d ∈ env.defs, d.c06 = true) (m : Mode) (g : G) (hg : g.c06 = true) (r : ParseResult) (f : St)
    (h : parseTop n env m g = .result r f) (ho : r.output = none) :
    ∃ l, f.alt = some l ∧ r.errs = f.errs.map (·.err) ++ [l.err] ∧
      ((∃ ev ∈ f.log, ev.pos = l.pos ∧ ∃ msg, ev.err.reason = .custom msg) →
        ∃ ev msg, (f.log.filter (·.pos = l.pos)).find? (fun ev => ev.err.reason.isCustom) = some ev ∧
          ev.err.reason = .custom msg ∧ l.err.reason = .custom msg) := by
  have hek' : env.ek ≠ .empty := by rw [hek]; decide
  obtain ⟨l, l', hl, hs, he, hr⟩ := parseTop_primary_error n env hek' hdefs m g hg r f h ho
  refine ⟨l, hl, hr, ?_⟩
  intro hc
  rw [hek] at hs
  rw [he.1] at hc ⊢
  obtain ⟨ev, msg, hfind, hev, hr'⟩ := summ_custom hs hc
  refine ⟨ev, msg, hfind, hev, ?_⟩
  have hq : l.err.reason.equiv l'.err.reason := he.2.2
  rw [hr'] at hq
  cases hlr : l.err.reason with
  | custom msg' => rw [hlr] at hq; rw [show msg' = msg from hq]
  | ef exp fo => rw [hlr] at hq; exact hq.elim

/-- `Rich`: the span of the reported error is the span of the first failure at the furthest position -/
theorem c06_span_first (n : Nat) (env : Env) (hek : env.ek = .rich)
    (hdefs : ∀ d ∈ env.defs, d.c06 = true) (m : Mode) (g : G) (hg : g.c06 = true) (r : ParseResult) (f : St)
    (h : parseTop n env m g = .result r f) (ho : r.output = none) :
    ∃ l, f.alt = some l ∧ r.errs = f.errs.map (·.err) ++ [l.err] ∧
      ∃ hne : f.log.filter (·.pos = l.pos) ≠ [],
        l.err.span = ((f.log.filter (·.pos = l.pos)).head hne).err.span := by
  have hek' : env.ek ≠ .empty := by rw [hek]; decide
  obtain ⟨l, l', hl, hs, he, hr⟩ := parseTop_primary_error n env hek' hdefs m g hg r f h ho
  refine ⟨l, hl, hr, ?_⟩
  rw [hek] at hs
  obtain ⟨hne, hsp⟩ := summ_span hs
  rw [he.1, he.2.1]
  exact ⟨hne, hsp⟩

#print axioms run_altRel
#print axioms next_altRel
#print axioms mkIter_altRel
#print axioms run_fail_altRelF
#print axioms parseTop_primary_error
#print axioms c06_furthest
#print axioms c06_expected_union
#print axioms c06_custom_preserved
#print axioms c06_span_first

end Chumsky

