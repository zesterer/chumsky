/-
  C10 for Pratt parsers: `pratt_go` commutes with the re-basing of spans — running `atom.pratt(ops)` on another input
  representation of the same tokens gives the index-based result with every span (those handed to the fold callbacks, those
  in the errors) mapped through the representation's span function. Plain tables and recursive expression grammars.
-/
import ChumskyModel.Proofs.Lemmas.PrattTable
import ChumskyModel.Proofs.Lemmas.KindSim
namespace Chumsky

def PrattOp.mapConst (M : SpMap) : PrattOp → PrattOp
  | .infix la bp op => .infix la bp (op.mapConst M)
  | .prefix bp op => .prefix bp (op.mapConst M)
  | .postfix bp op => .postfix bp (op.mapConst M)

def sumMapSp (M : SpMap) : Sum St Out → Sum St Out
  | .inl st => .inl (st.mapSp M)
  | .inr o => .inr (o.mapSp M)

@[simp] theorem sumMapSp_inl (M : SpMap) (st : St) : sumMapSp M (.inl st) = .inl (st.mapSp M) := rfl
@[simp] theorem sumMapSp_inr (M : SpMap) (o : Out) : sumMapSp M (.inr o) = .inr (o.mapSp M) := rfl

theorem sumMapSp_eq_map (M : SpMap) (r : Sum St Out) : sumMapSp M r = Sum.map (St.mapSp M) (Out.mapSp M) r := by
  cases r <;> rfl

variable {M : SpMap} {env env' : Env} {R R' : Mode → G → St → Out} {rec rec' : Nat → St → Out}

def PKind (M : SpMap) (R R' : Mode → G → St → Out) : Prop :=
  ∀ m g st, R' m (g.mapConst M) (st.mapSp M) = (R m g st).mapSp M
def RecKind (M : SpMap) (rec rec' : Nat → St → Out) : Prop := ∀ p st, rec' p (st.mapSp M) = (rec p st).mapSp M

theorem foldPrefix_mapSp (h : KindRel M env env') (opv rhs : Val) (i j : Nat) :
    foldPrefix (opv.mapSp M) (rhs.mapSp M) (env'.mkSpan i j) = (foldPrefix opv rhs (env.mkSpan i j)).mapSp M := by
  rw [h.span]; rfl
theorem foldPostfix_mapSp (h : KindRel M env env') (lhs opv : Val) (i j : Nat) :
    foldPostfix (lhs.mapSp M) (opv.mapSp M) (env'.mkSpan i j) = (foldPostfix lhs opv (env.mkSpan i j)).mapSp M := by
  rw [h.span]; rfl
theorem foldInfix_mapSp (h : KindRel M env env') (lhs opv rhs : Val) (i j : Nat) :
    foldInfix (lhs.mapSp M) (opv.mapSp M) (rhs.mapSp M) (env'.mkSpan i j) =
      (foldInfix lhs opv rhs (env.mkSpan i j)).mapSp M := by
  rw [h.span]; rfl

theorem prattOperator_kind (hR : PKind M R R') (m : Mode) (start : Nat) {f f' : Val → Nat × Nat → Val}
    (hf : ∀ a i j, f' (a.mapSp M) (env'.mkSpan i j) = (f a (env.mkSpan i j)).mapSp M) (op : G) (st : St) :
    prattOperator R' env' m start f' (op.mapConst M) (st.mapSp M) = (prattOperator R env m start f op st).mapSp M :=
  Out.andThen_kind (hR m op st) fun opv st1 => by
    cases m
    · exact congrArg (Out.ok · _) (hf ..)
    · rfl

theorem prattOperand_kind (hR : PKind M R R') (hrec : RecKind M rec rec') (m : Mode) (start : Nat)
    {f f' : Val → Val → Nat × Nat → Val}
    (hf : ∀ a b i j, f' (a.mapSp M) (b.mapSp M) (env'.mkSpan i j) = (f a b (env.mkSpan i j)).mapSp M) (op : G) (p : Nat)
    (st : St) :
    prattOperand R' rec' env' m start f' (op.mapConst M) p (st.mapSp M) =
      (prattOperand R rec env m start f op p st).mapSp M :=
  Out.andThen_kind (hR m op st) fun opv st1 => Out.andThen_kind (hrec p st1) fun rhs st2 => by
    cases m
    · exact congrArg (Out.ok · _) (hf ..)
    · rfl

theorem Out.orRewind_kind {o o' : Out} (h : o' = o.mapSp M) (c : Chk) :
    o'.orRewind c = Sum.map (St.mapSp M) (Out.mapSp M) (o.orRewind c) := by
  subst h
  cases o with
  | fail st => exact congrArg Sum.inl (St.rewind_mapSp ..)
  | _ => rfl

theorem prattPrefix_kind (h : KindRel M env env') (hR : PKind M R R') (hrec : RecKind M rec rec') (m : Mode) (c : Chk)
    (ops : List PrattOp) (st : St) :
    prattPrefix R' rec' env' m c (ops.map (PrattOp.mapConst M)) (st.mapSp M) =
      sumMapSp M (prattPrefix R rec env m c ops st) := by
  rw [prattPrefix_eq, prattPrefix_eq, sumMapSp_eq_map]
  refine tablePass_map (fun o st => ?_) ops st
  cases o with
  | «prefix» bp op => exact Out.orRewind_kind (prattOperand_kind hR hrec m _ (foldPrefix_mapSp h) op _ st) c
  | _ => rfl

theorem prattPostfix_kind (h : KindRel M env env') (hR : PKind M R R') (m : Mode) (c c' : Chk) (minP : Nat) (lhs : Val)
    (ops : List PrattOp) (st : St) :
    prattPostfix R' env' m c c' minP (lhs.mapSp M) (ops.map (PrattOp.mapConst M)) (st.mapSp M) =
      sumMapSp M (prattPostfix R env m c c' minP lhs ops st) := by
  rw [prattPostfix_eq, prattPostfix_eq, sumMapSp_eq_map]
  refine tablePass_map (fun o st => ?_) ops st
  cases o with
  | «postfix» bp op =>
    exact ite_map _ (Out.orRewind_kind (prattOperator_kind hR m _ (foldPostfix_mapSp h lhs) op st) c') rfl
  | _ => rfl

theorem prattInfix_kind (h : KindRel M env env') (hR : PKind M R R') (hrec : RecKind M rec rec') (m : Mode)
    (c c' : Chk) (minP : Nat) (lhs : Val) (ops : List PrattOp) (st : St) :
    prattInfix R' rec' env' m c c' minP (lhs.mapSp M) (ops.map (PrattOp.mapConst M)) (st.mapSp M) =
      sumMapSp M (prattInfix R rec env m c c' minP lhs ops st) := by
  rw [prattInfix_eq, prattInfix_eq, sumMapSp_eq_map]
  refine tablePass_map (fun o st => ?_) ops st
  cases o with
  | «infix» la bp op =>
    exact ite_map _ (Out.orRewind_kind (prattOperand_kind hR hrec m _ (foldInfix_mapSp h lhs) op _ st) c') rfl
  | _ => rfl

theorem prattLoop_kind (h : KindRel M env env') (hR : PKind M R R') (hrec : RecKind M rec rec') (m : Mode)
    (ops : List PrattOp) (c : Chk) (minP : Nat) : ∀ (k : Nat) (st : St) (lhs : Val),
      prattLoop R' rec' env' m (ops.map (PrattOp.mapConst M)) c minP k (st.mapSp M) (lhs.mapSp M) =
        (prattLoop R rec env m ops c minP k st lhs).mapSp M
  | 0, _, _ => rfl
  | k + 1, st, lhs => by
    have next : ∀ o : Out,
        ((o.mapSp M).andThen fun v st1 => prattLoop R' rec' env' m (ops.map (PrattOp.mapConst M)) c minP k st1 v) =
          (o.andThen fun v st1 => prattLoop R rec env m ops c minP k st1 v).mapSp M :=
      fun _ => Out.andThen_kind rfl fun v st1 => prattLoop_kind h hR hrec m ops c minP k st1 v
    rw [prattLoop_succ, prattLoop_succ, St.save_mapSp, prattPostfix_kind h hR m c st.save minP lhs ops st]
    cases prattPostfix R env m c st.save minP lhs ops st with
    | inr o => exact next o
    | inl st1 =>
      dsimp only [sumMapSp]
      rw [prattInfix_kind h hR hrec m c st.save minP lhs ops st1]
      cases prattInfix R rec env m c st.save minP lhs ops st1 with
      | inr o => exact next o
      | inl st2 => exact congrArg (Out.ok _) (St.rewind_mapSp ..)

theorem prattGo_pKind (h : KindRel M env env') (hR : PKind M R R') (m : Mode) (atom : G) (ops : List PrattOp) :
    ∀ (k minP : Nat) (st : St),
      prattGo R' env' m (atom.mapConst M) (ops.map (PrattOp.mapConst M)) k minP (st.mapSp M) =
        (prattGo R env m atom ops k minP st).mapSp M
  | 0, _, _ => rfl
  | k + 1, minP, st => by
    have hrec := prattGo_pKind h hR m atom ops k
    rw [prattGo_succ, prattGo_succ, St.save_mapSp, prattPrefix_kind h hR hrec m st.save ops st]
    refine Out.andThen_kind ?_ fun v st1 => prattLoop_kind h hR hrec m ops st.save minP k st1 v
    cases prattPrefix R (prattGo R env m atom ops k) env m st.save ops st with
    | inr o => rfl
    | inl st0 => exact hR m atom st0

/-- **C10 for `pratt_go`** -/
theorem prattGo_kind {R : Runner} (h : KindRel M env env') (hR : KindSimR M env env' R) (m : Mode) (atom : G)
    (ops : List PrattOp) (k minP : Nat) (st : St) :
    prattGo (fun m g st => R env' m g st) env' m (atom.mapConst M) (ops.map (PrattOp.mapConst M)) k minP
        (st.mapSp M) =
      (prattGo (fun m g st => R env m g st) env m atom ops k minP st).mapSp M :=
  prattGo_pKind h hR m atom ops k minP st

theorem runPratt_kind (h : KindRel M env env') (fuel : Nat) (m : Mode) (atom : G) (ops : List PrattOp) (st : St) :
    runPratt fuel env' m (atom.mapConst M) (ops.map (PrattOp.mapConst M)) (st.mapSp M) =
      (runPratt fuel env m atom ops st).mapSp M :=
  prattGo_kind h (run_kind_all h fuel).1 m atom ops fuel 0 st

theorem PrattOp.mapConst_of_constOk (M : SpMap) (o : PrattOp)
    (h : (match o with | .infix _ _ g => g | .prefix _ g => g | .postfix _ g => g).constOk = true) : o.mapConst M = o := by
  cases o <;> exact congrArg _ (G.mapConst_of_constOk M _ h)

theorem opsMapConst_of_constOk (M : SpMap) (ops : List PrattOp)
    (h : ∀ o ∈ ops, (match o with | .infix _ _ g => g | .prefix _ g => g | .postfix _ g => g).constOk = true) :
    ops.map (PrattOp.mapConst M) = ops :=
  (List.map_congr_left fun o ho => PrattOp.mapConst_of_constOk M o (h o ho)).trans (List.map_id ops)

/-- **C10 for `atom.pratt(ops)`, from the index-based representation to any other** (constants of the atom / operator
    grammars carry no span): the machine under `env'` from a re-based state is the index-based run re-based -/
theorem runPratt_kindSim (env : Env) (hs : env.kind = .slice) (k : InKind) (ts : List (Nat × Nat)) (e : Nat × Nat)
    (hd : constOkL env.defs = true) (fuel : Nat) (m : Mode) (atom : G) (hatom : atom.constOk = true)
    (ops : List PrattOp)
    (hops : ∀ o ∈ ops, (match o with | .infix _ _ g => g | .prefix _ g => g | .postfix _ g => g).constOk = true)
    (st : St) :
    let env' : Env := { env with kind := k, tspans := ts, eoi := e }
    runPratt fuel env' m atom ops (st.mapSp env'.rebase) = (runPratt fuel env m atom ops st).mapSp env'.rebase := by
  intro env'
  have := runPratt_kind (kindRel_of_slice env hs k ts e hd) fuel m atom ops st
  rwa [G.mapConst_of_constOk _ atom hatom, opsMapConst_of_constOk _ ops hops] at this

def XEnv.mapConst (M : SpMap) (x : XEnv) : XEnv :=
  { hole := x.hole, atom := x.atom.mapConst M, ops := x.ops.map (PrattOp.mapConst M) }

theorem XEnv.isHole_mapConst (M : SpMap) (x : XEnv) (g : G) : (x.mapConst M).isHole (g.mapConst M) = x.isHole g := by
  -- unfolded first: otherwise every case starts by trying to unify the two tables
  unfold XEnv.isHole
  cases g <;> eq_refl

end Chumsky
