/-
  Proofs/Lemmas/RunInv.lean — invariants of the machine state, proved once for all combinators.

  A `RunRel` is a pair of relations between the state before a run and the state after it: `ok` after a success,
  `fail` after a failure.  If the two are closed under sequencing, under rewinding to the checkpoint of the start
  state and (`RunInv`) under the failure events the combinators record, they hold for every run of a grammar of
  the class `c06`: `step_sat`, `stepNext_sat`, `stepMk_sat` by open recursion, `run_sat` by induction on the fuel.
  `AltInv.lean` and `ErrWf.lean` are the two instances.
-/
import ChumskyModel.Proofs.Lemmas.StateOps
import ChumskyModel.Proofs.Lemmas.NecClass
namespace Chumsky

mutual
/-- `false` exactly when one of `.not_`, `.recoverVia`, `.recoverSkipUntil`, `.recoverSkipRetry`, `.labelled`,
    `.mapErr`, `.memoized` occurs anywhere inside (definitions are checked separately) -/
def G.c06 : G → Bool
  | .end_ => true
  | .empty => true
  | .any => true
  | .just _ => true
  | .oneOf _ => true
  | .noneOf _ => true
  | .select _ => true
  | .custom _ => true
  | .todo => true
  | .then_ a b => a.c06 && b.c06
  | .ignoreThen a b => a.c06 && b.c06
  | .thenIgnore a b => a.c06 && b.c06
  | .delimitedBy a l r => a.c06 && (l.c06 && r.c06)
  | .paddedBy a p => a.c06 && p.c06
  | .group gs => c06L gs
  | .groupArr gs => c06L gs
  | .or_ a b => a.c06 && b.c06
  | .choice _ gs => c06L gs
  | .orNot a => a.c06
  | .not_ _ => false
  | .andIs a b => a.c06 && b.c06
  | .rewind a => a.c06
  | .map _ a => a.c06
  | .to _ a => a.c06
  | .ignored a => a.c06
  | .filter _ a => a.c06
  | .tryMap _ a => a.c06
  | .tryMapWith _ a => a.c06
  | .toSpan a => a.c06
  | .toSlice a => a.c06
  | .mapWithSpan a => a.c06
  | .mapWithState a => a.c06
  | .mapWithCtx a => a.c06
  | .validate _ a => a.c06
  | .collect _ it => it.c06
  | .collectExactly _ it => it.c06
  | .foldl _ a it => a.c06 && it.c06
  | .foldr _ it b => it.c06 && b.c06
  | .foldlWith a it => a.c06 && it.c06
  | .foldrWith it b => it.c06 && b.c06
  | .iterP it => it.c06
  | .recoverVia _ _ => false
  | .recoverSkipUntil _ _ _ _ => false
  | .recoverSkipRetry _ _ _ => false
  | .labelled _ _ _ => false
  | .mapErr _ _ => false
  | .withCtx _ a => a.c06
  | .ignoreWithCtx a b => a.c06 && b.c06
  | .thenWithCtx a b => a.c06 && b.c06
  | .mapCtx _ a => a.c06
  | .configureJust _ _ => true
  | .withState a => a.c06
  | .memoized _ _ => false
  | .call _ => true
  | .boxed a => a.c06
def It.c06 : It → Bool
  | .repeated a _ _ => a.c06
  | .separatedBy a sep _ _ _ _ => a.c06 && sep.c06
  | .enumerate it => it.c06
  | .orNotIt a => a.c06
  | .intoIter a => a.c06
  | .thenIt a b => a.c06 && b.c06
  | .mapIt _ it => it.c06
  | .configureRep _ it => it.c06
  | .tryConfigureRep _ it => it.c06
def c06L : List G → Bool
  | [] => true
  | g :: gs => g.c06 && c06L gs
end

/-- the class an invariant is proved for: `c06`, and `nec` as well when `n` is set -/
def G.cls (n : Bool) (g : G) : Bool := g.c06 && (!n || g.nec)
def It.cls (n : Bool) (it : It) : Bool := it.c06 && (!n || it.nec)
def clsL (n : Bool) (gs : List G) : Bool := c06L gs && (!n || necL gs)

theorem cls_and {n p q p' q' : Bool} :
    ((p && q) && (!n || (p' && q'))) = true ↔ (p && (!n || p')) = true ∧ (q && (!n || q')) = true := by
  cases n <;> cases p <;> cases q <;> cases p' <;> cases q' <;> decide

theorem clsL_nil (n : Bool) : clsL n [] = true := by cases n <;> rfl
theorem clsL_cons {n : Bool} {g : G} {gs : List G} : clsL n (g :: gs) = true ↔ g.cls n = true ∧ clsL n gs = true :=
  cls_and

theorem cls_choice {n : Bool} {fl : ChoiceFlavour} {gs : List G} (h : (G.choice fl gs).cls n = true) :
    clsL n gs = true ∧ (n = true → necChoice fl gs.isEmpty = true) := by
  have key : ∀ {p c q : Bool}, (p && (!n || (c && q))) = true → (p && (!n || q)) = true ∧ (n = true → c = true) := by
    intro p c q; cases n <;> cases p <;> cases c <;> cases q <;> decide
  exact key h

theorem G.cls_false (g : G) : g.cls false = g.c06 := Bool.and_true _
theorem It.cls_false (it : It) : it.cls false = it.c06 := Bool.and_true _
theorem G.cls_true {g : G} : g.cls true = true ↔ g.c06 = true ∧ g.nec = true := Bool.and_eq_true_iff
theorem It.cls_true {it : It} : it.cls true = true ↔ it.c06 = true ∧ it.nec = true := Bool.and_eq_true_iff

/-- `b` differs from `a` at most in the inspector, the context and the memo table -/
def St.Same (a b : St) : Prop := b.pos = a.pos ∧ b.errs = a.errs ∧ b.alt = a.alt ∧ b.log = a.log

theorem St.rewind_save (st : St) : st.rewind st.save = st := by
  simp [St.rewind, St.save]

theorem St.next_fst (env : Env) (st : St) : (st.next env).1 = env.toks[st.pos]? := by
  unfold St.next; split <;> simp_all

structure RunRel where
  /-- the state after a successful run -/
  ok : St → St → Prop
  /-- the state after a failing run -/
  fail : St → St → Prop
  /-- the relations fail for `choice` over an empty slice: the class is `c06 ∧ nec` -/
  nec : Bool
  refl (st : St) : ok st st
  trans {a b c : St} : ok a b → ok b c → ok a c
  transF {a b c : St} : ok a b → fail b c → fail a c
  okSame {a b b' : St} : ok a b → b.Same b' → ok a b'
  failSame {a b b' : St} : fail a b → b.Same b' → fail a b'
  /-- a combinator that turns the failure of a sub-parser into a success rewinds to where it started -/
  recover {a b : St} : fail a b → ok a (b.rewind a.save)
  failRewind {a b : St} : fail a b → fail a (b.rewind a.save)
  /-- `rewind_input` to the checkpoint of an intermediate state (`and_is`, `rewind`) -/
  rewindInput {a b c : St} : ok a b → ok a c → ok a (c.rewindInput b.save)

/-- closed under the events of the class `c06` as well; positions and spans are those the combinators use -/
structure RunInv (env : Env) extends RunRel where
  pull (st : St) : ok st (st.next env).2
  /-- expected/found, reported at the start with the token there and the span of what was consumed -/
  expected {st st1 : St} (exp : List Pat) : ok st st1 →
    fail st ((st1.rewind st.save).addAlt env exp env.toks[st.pos]? (env.mkSpan st.pos st1.pos))
  /-- a user error with the span of what was consumed, recorded at its start or at its end -/
  user {st st1 : St} {p : Nat} (msg : Nat) : ok st st1 → p = st.pos ∨ p = st1.pos →
    fail st (st1.addAltErr env p (env.ek.userErr (env.mkSpan st.pos st1.pos) msg))
  /-- `validate`: secondary errors -/
  emitted {st st1 : St} (k msg : Nat) : ok st st1 →
    ok st { st1 with errs := st1.errs ++ List.replicate k ⟨st.pos, env.ek.userErr (env.mkSpan st.pos st1.pos) msg⟩ }
  /-- `try_map` runs its sub-parser without pending error and puts the old one back afterwards -/
  shelterOk {st st1 : St} : ok { st with alt := none } st1 →
    ok st (St.readdAlt env { st1 with alt := st.alt } st1.alt)
  shelterFail {st st1 : St} : fail { st with alt := none } st1 →
    fail st (St.readdAlt env { st1 with alt := st.alt } st1.alt)
  /-- … or, when the mapper rejects, discards what the sub-parser recorded -/
  shelterUser {st st1 : St} (msg : Nat) : ok { st with alt := none } st1 →
    fail st (St.addAltErr env { st1 with alt := st.alt, log := st.log } st.pos
      (env.ek.userErr (env.mkSpan st.pos st1.pos) msg))
  emptyChoice : nec = false → ∀ st : St, fail st (st.addAlt env [] none (env.mkSpan st.pos st.pos))

def Out.Sat (I : RunRel) (st : St) : Out → Prop
  | .ok _ st' => I.ok st st'
  | .fail st' => I.fail st st'
  | _ => True

def ItOut.Sat (I : RunRel) (st : St) : ItOut → Prop
  | .some _ st' _ => I.ok st st'
  | .done st' _ => I.ok st st'
  | .fail st' => I.fail st st'
  | _ => True

def MkOut.Sat (I : RunRel) (st : St) : MkOut → Prop
  | .ok _ st' => I.ok st st'
  | .fail st' => I.fail st st'
  | _ => True

variable {I : RunRel} {st st0 : St}

theorem Out.Sat.trans {o : Out} (h0 : I.ok st0 st) (h : o.Sat I st) : o.Sat I st0 := by
  cases o with
  | ok v st' => exact I.trans h0 h
  | fail st' => exact I.transF h0 h
  | _ => trivial

theorem ItOut.Sat.trans {o : ItOut} (h0 : I.ok st0 st) (h : o.Sat I st) : o.Sat I st0 := by
  cases o with
  | some v st' i => exact I.trans h0 h
  | done st' i => exact I.trans h0 h
  | fail st' => exact I.transF h0 h
  | _ => trivial

theorem MkOut.Sat.trans {o : MkOut} (h0 : I.ok st0 st) (h : o.Sat I st) : o.Sat I st0 := by
  cases o with
  | ok i st' => exact I.trans h0 h
  | fail st' => exact I.transF h0 h
  | _ => trivial

theorem Out.Sat.left {o : Out} (h : o.Sat I st) (hs : st0.Same st) : o.Sat I st0 :=
  h.trans (I.okSame (I.refl st0) hs)

theorem Out.Sat.bind {o : Out} {k : Val → St → Out} (h : o.Sat I st)
    (hk : ∀ v st1, I.ok st st1 → (k v st1).Sat I st) : (o.andThen k).Sat I st := by
  cases o with
  | ok v st' => exact hk v st' h
  | fail st' => exact h
  | _ => trivial

theorem Out.Sat.andThen {o : Out} {k : Val → St → Out} (h : o.Sat I st)
    (hk : ∀ v st1, (k v st1).Sat I st1) : (o.andThen k).Sat I st :=
  h.bind fun v st1 h1 => (hk v st1).trans h1

theorem MkOut.Sat.andThen {o : MkOut} {k : ItSt → St → Out} (h : o.Sat I st)
    (hk : ∀ ist st1, (k ist st1).Sat I st1) :
    (match o with
      | .ok ist st1 => k ist st1
      | .fail st1 => .fail st1
      | .panic w => .panic w
      | .oof => .oof).Sat I st := by
  cases o with
  | ok ist st' => exact (hk ist st').trans h
  | fail st' => exact h
  | _ => trivial

theorem ItOut.Sat.andThen {o : ItOut} {k : Val → St → ItSt → Out} {d : St → ItSt → Out} (h : o.Sat I st)
    (hk : ∀ v st1 ist, (k v st1 ist).Sat I st1) (hd : ∀ st1 ist, (d st1 ist).Sat I st1) :
    (match o with
      | .some v st1 ist => k v st1 ist
      | .done st1 ist => d st1 ist
      | .fail st1 => .fail st1
      | .panic w => .panic w
      | .oof => .oof).Sat I st := by
  cases o with
  | some v st' i => exact (hk v st' i).trans h
  | done st' i => exact (hd st' i).trans h
  | fail st' => exact h
  | _ => trivial

theorem Out.Sat.restoreCtx {o : Out} (h : o.Sat I st) (c : Val) : (o.restoreCtx c).Sat I st := by
  cases o with
  | ok v st' => exact I.okSame h ⟨rfl, rfl, rfl, rfl⟩
  | fail st' => exact I.failSame h ⟨rfl, rfl, rfl, rfl⟩
  | _ => trivial

theorem Out.Sat.restoreInsp {o : Out} (h : o.Sat I st) (i : List Nat) : (o.restoreInsp i).Sat I st := by
  cases o with
  | ok v st' => exact I.okSame h ⟨rfl, rfl, rfl, rfl⟩
  | fail st' => exact I.failSame h ⟨rfl, rfl, rfl, rfl⟩
  | _ => trivial

/-- a failed attempt that is rewound counts as a success (`or_not`, the end of a repetition) -/
theorem Out.Sat.orElse {o : Out} (h : o.Sat I st) (f : Val → Val) (x : Val) :
    (match o with
      | .ok v st' => Out.ok (f v) st'
      | .fail st' => .ok x (st'.rewind st.save)
      | .panic w => .panic w
      | .oof => .oof).Sat I st := by
  cases o with
  | ok v st' => exact h
  | fail st' => exact I.recover h
  | _ => trivial

theorem Out.Sat.unlessPanic {o : Out} (h : o.Sat I st) (c : Prop) [Decidable c] (w : Nat) :
    (if c then .panic w else o).Sat I st := by
  split
  · trivial
  · exact h

/-! ### the induction hypotheses of the open recursion -/

def SatR (I : RunRel) (env : Env) (R : Runner) : Prop :=
  ∀ m g st, g.cls I.nec = true → (R env m g st).Sat I st
def SatN (I : RunRel) (env : Env) (N : NextRunner) : Prop :=
  ∀ m it st ist, it.cls I.nec = true → (N env m it st ist).Sat I st
def SatK (I : RunRel) (env : Env) (K : MkRunner) : Prop :=
  ∀ m it st, it.cls I.nec = true → (K env m it st).Sat I st

section primitives
variable {env : Env} (J : RunInv env)

theorem RunInv.expectedHere (st : St) (exp : List Pat) :
    J.fail st (st.addAlt env exp env.toks[st.pos]? (env.mkSpan st.pos st.pos)) := by
  have h := J.expected exp (J.refl st)
  rwa [St.rewind_save] at h

/-- the failure of a one-token primitive: pull a token, rewind, report what was pulled -/
theorem RunInv.pullFail (st : St) (exp : List Pat) :
    J.fail st (((st.next env).2.rewind st.save).addAlt env exp (st.next env).1
      (env.mkSpan st.pos (st.next env).2.pos)) := by
  rw [St.next_fst]
  exact J.expected exp (J.pull st)

theorem tokenPrim_sat (m : Mode) (st : St) (accept : Nat → Option Val) (exp : List Pat) :
    (tokenPrim env m st accept exp).Sat J.toRunRel st := by
  simp only [tokenPrim]
  cases (St.next env st).fst.bind accept with
  | some v => exact J.pull st
  | none => exact J.pullFail st exp

theorem justRun_sat (v : Val) : ∀ (ts : List Nat) (st : St),
    (match justRun env ts st with
      | .inr st' => Out.ok v st'
      | .inl st' => .fail st').Sat J.toRunRel st := by
  intro ts
  induction ts with
  | nil => intro st; exact J.refl st
  | cons e es ih =>
    intro st
    simp only [justRun]
    by_cases h : ((St.next env st).1 == some e) = true
    · rw [if_pos h]; exact (ih _).trans (J.pull st)
    · rw [if_neg h]; exact J.pullFail st _

theorem runCustom_sat (m : Mode) (f : CustomFn) (st : St) : (runCustom env m f st).Sat J.toRunRel st := by
  cases f with
  | next msg =>
    simp only [runCustom]
    cases (St.next env st).fst with
    | some t => exact J.pull st
    | none => exact J.user msg (J.pull st) (Or.inl rfl)
  | take2Fail msg => exact J.user msg (J.trans (J.pull st) (J.pull _)) (Or.inl rfl)
  | nothing => exact J.refl st
  | failNow msg => exact J.user msg (J.refl st) (Or.inl rfl)

end primitives

section loops
variable {env : Env} {R : Runner} {N : NextRunner}

/-- `st0` is where the `choice` started; `st` is where the next alternative starts -/
theorem choiceTuple_sat (hR : SatR I env R) (m : Mode) :
    ∀ (gs : List G) (st : St), clsL I.nec gs = true → I.ok st0 st → (gs ≠ [] ∨ I.fail st0 st) →
      (choiceTuple R env m st0.save gs st).Sat I st0 := by
  intro gs
  induction gs with
  | nil => intro st _ _ hne; exact hne.resolve_left (fun h => h rfl)
  | cons g gs ih =>
    intro st hgs h0 _
    obtain ⟨hg, hgs⟩ := clsL_cons.mp hgs
    simp only [choiceTuple]
    have h := hR m g st hg
    generalize R env m g st = o at h ⊢
    cases o with
    | ok v st' => exact I.trans h0 h
    | fail st' =>
      have hF := I.transF h0 h
      exact ih _ hgs (I.recover hF) (Or.inr (I.failRewind hF))
    | _ => trivial

theorem choiceSlice_sat (hR : SatR I env R) (m : Mode) :
    ∀ (gs : List G) (st : St), clsL I.nec gs = true → I.ok st0 (st.rewind st0.save) →
      (gs ≠ [] ∨ I.fail st0 st) → (choiceSlice R env m st0.save gs st).Sat I st0 := by
  intro gs
  induction gs with
  | nil => intro st _ _ hne; exact hne.resolve_left (fun h => h rfl)
  | cons g gs ih =>
    intro st hgs h0 _
    obtain ⟨hg, hgs⟩ := clsL_cons.mp hgs
    simp only [choiceSlice]
    have h := hR m g (st.rewind st0.save) hg
    generalize R env m g (st.rewind st0.save) = o at h ⊢
    cases o with
    | ok v st' => exact I.trans h0 h
    | fail st' =>
      have hF := I.transF h0 h
      exact ih _ hgs (I.recover hF) (Or.inr hF)
    | _ => trivial

theorem groupLoop_sat (hR : SatR I env R) (m : Mode) :
    ∀ (gs : List G) (st : St) (acc : List Val), clsL I.nec gs = true → (groupLoop R env m gs st acc).Sat I st := by
  intro gs
  induction gs with
  | nil => intro st acc _; exact I.refl st
  | cons g gs ih =>
    intro st acc hgs
    obtain ⟨hg, hgs⟩ := clsL_cons.mp hgs
    exact (hR m g st hg).andThen fun v st' => ih st' _ hgs

theorem collectLoop_sat (hN : SatN I env N) (m : Mode) {it : It} (hit : it.cls I.nec = true) (k : CollKind) :
    ∀ (fuel : Nat) (st : St) (ist : ItSt) (acc : List Val) (i : Nat),
      (collectLoop N env m it k fuel st ist acc i).Sat I st := by
  intro fuel
  induction fuel with
  | zero => intro st ist acc i; trivial
  | succ fuel ih =>
    intro st ist acc i
    exact (hN m it st ist hit).andThen (fun v st' ist' => (ih st' ist' _ _).unlessPanic _ _) fun st' _ => I.refl st'

theorem foldlLoop_sat (hN : SatN I env N) (m : Mode) {it : It} (hit : it.cls I.nec = true)
    (f : Val → Val → St → Val) : ∀ (fuel : Nat) (st : St) (ist : ItSt) (acc : Val),
      (foldlLoop N env m it f fuel st ist acc).Sat I st := by
  intro fuel
  induction fuel with
  | zero => intro st ist acc; trivial
  | succ fuel ih =>
    intro st ist acc
    exact (hN m it st ist hit).andThen (fun v st' ist' => (ih st' ist' _).unlessPanic _ _) fun st' _ => I.refl st'

theorem iterLoop_sat (hN : SatN I env N) {it : It} (hit : it.cls I.nec = true) (ap : Bool) :
    ∀ (fuel : Nat) (st : St) (ist : ItSt), (iterLoop N env it ap fuel st ist).Sat I st := by
  intro fuel
  induction fuel with
  | zero => intro st ist; trivial
  | succ fuel ih =>
    intro st ist
    exact (hN .check it st ist hit).andThen (fun v st' ist' => (ih st' ist').unlessPanic _ _) fun st' _ => I.refl st'

theorem foldrCollect_sat (hN : SatN I env N) (m : Mode) {it : It} (hit : it.cls I.nec = true)
    {k : List (Val × Nat) → St → Out} (hk : ∀ items st2, (k items st2).Sat I st2) :
    ∀ (fuel : Nat) (st : St) (ist : ItSt) (acc : List (Val × Nat)),
      (match foldrCollect N env m it fuel st ist acc with
        | .inr o => o
        | .inl none => .oof
        | .inl (some (items, st2)) => k items st2).Sat I st := by
  intro fuel
  induction fuel with
  | zero => intro st ist acc; trivial
  | succ fuel ih =>
    intro st ist acc
    simp only [foldrCollect]
    have h := hN m it st ist hit
    generalize N env m it st ist = o at h ⊢
    cases o with
    | some v st' ist' =>
      by_cases hc : (!it.nonconsOk && st'.pos == st.pos) = true
      · simp only [if_pos hc]; trivial
      · simp only [if_neg hc]; exact (ih st' ist' _).trans h
    | done st' _ => exact (hk _ st').trans h
    | fail st' => exact h
    | _ => trivial

theorem repeatFast_sat (hR : SatR I env R) {a : G} (ha : a.cls I.nec = true) :
    ∀ (fuel : Nat) (st : St), (repeatFast R env a fuel st).Sat I st := by
  intro fuel
  induction fuel with
  | zero => intro st; trivial
  | succ fuel ih =>
    intro st
    simp only [repeatFast]
    have h := hR .check a st ha
    generalize R env .check a st = o at h ⊢
    cases o with
    | ok v st' => exact ((ih st').trans h).unlessPanic _ _
    | fail st' => exact I.recover h
    | _ => trivial

end loops

theorem collectExactlyLoop_sat {env : Env} (J : RunInv env) {N : NextRunner} (hN : SatN J.toRunRel env N) (m : Mode)
    {it : It} (hit : it.cls J.nec = true) : ∀ (n : Nat) (st : St) (ist : ItSt) (acc : List Val),
      (collectExactlyLoop N env m it n st ist acc).Sat J.toRunRel st := by
  intro n
  induction n with
  | zero => intro st ist acc; exact J.refl st
  | succ n ih =>
    intro st ist acc
    exact (hN m it st ist hit).andThen (fun v st' ist' => ih st' ist' _) fun st' _ => J.expectedHere st' _

theorem step_sat {env : Env} (J : RunInv env) (hdefs : ∀ d ∈ env.defs, d.cls J.nec = true) {R : Runner}
    {N : NextRunner} {K : MkRunner} (hR : SatR J.toRunRel env R) (hN : SatN J.toRunRel env N)
    (hK : SatK J.toRunRel env K) (L : Nat) : SatR J.toRunRel env (step R N K L) := by
  intro m g st hg
  cases g with
  | end_ =>
    simp only [step_eqs]
    have hf := J.pullFail st [.eoi]
    cases hnx : (St.next env st).fst with
    | none => exact J.pull st
    | some t => rw [hnx] at hf; exact hf
  | empty => exact J.refl st
  | any | oneOf ts | noneOf ts | select ts => exact tokenPrim_sat J _ _ _ _
  | just ts => exact justRun_sat J _ ts st
  | custom f => exact runCustom_sat J _ _ _
  | todo => trivial
  | ignoreThen a b =>
    obtain ⟨ha, hb⟩ := cls_and.mp hg
    exact (hR .check a st ha).andThen fun va st1 => (hR m b st1 hb).andThen fun vb st2 => J.refl st2
  | then_ a b | thenIgnore a b =>
    obtain ⟨ha, hb⟩ := cls_and.mp hg
    exact (hR m a st ha).andThen fun va st1 => (hR _ b st1 hb).andThen fun vb st2 => J.refl st2
  | delimitedBy a l r =>
    obtain ⟨ha, hlr⟩ := cls_and.mp hg
    obtain ⟨hl, hr⟩ := cls_and.mp hlr
    exact (hR .check l st hl).andThen fun _ st1 => (hR m a st1 ha).andThen fun va st2 =>
      (hR .check r st2 hr).andThen fun _ st3 => J.refl st3
  | paddedBy a p =>
    obtain ⟨ha, hp⟩ := cls_and.mp hg
    exact (hR .check p st hp).andThen fun _ st1 => (hR m a st1 ha).andThen fun va st2 =>
      (hR .check p st2 hp).andThen fun _ st3 => J.refl st3
  | group gs | groupArr gs => exact groupLoop_sat hR m gs st [] hg
  | or_ a b =>
    obtain ⟨ha, hb⟩ := cls_and.mp hg
    exact choiceTuple_sat hR m [a, b] st (clsL_cons.mpr ⟨ha, clsL_cons.mpr ⟨hb, clsL_nil _⟩⟩) (J.refl st)
      (Or.inl (List.cons_ne_nil _ _))
  | choice fl gs =>
    obtain ⟨hgs, hne⟩ := cls_choice hg
    cases fl with
    | tuple =>
      cases gs with
      | nil => trivial
      | cons g gs =>
        cases gs with
        | nil => exact hR m g st (clsL_cons.mp hgs).1
        | cons g2 gs => exact choiceTuple_sat hR m _ st hgs (J.refl st) (Or.inl (List.cons_ne_nil _ _))
    | slice =>
      cases gs with
      | nil => exact J.emptyChoice (Bool.eq_false_iff.mpr fun hn => Bool.false_ne_true (hne hn)) st
      | cons g gs =>
        refine choiceSlice_sat hR m _ st hgs ?_ (Or.inl (List.cons_ne_nil _ _))
        rw [St.rewind_save]
        exact J.refl st
  | orNot a => exact (hR m a st hg).orElse _ _
  | andIs a b =>
    obtain ⟨ha, hb⟩ := cls_and.mp hg
    simp only [step_eqs]
    have h := hR m a st ha
    generalize R env m a st = o at h ⊢
    cases o with
    | fail st1 => exact J.failRewind h
    | ok v st1 =>
      simp only []
      have h' := J.rewindInput (J.refl st) h
      have h2 := (hR .check b _ hb).trans h'
      generalize R env .check b (st1.rewindInput st.save) = o2 at h2 ⊢
      cases o2 with
      | ok _ st2 => exact J.rewindInput h h2
      | fail st2 => exact h2
      | _ => trivial
    | _ => trivial
  | rewind a =>
    simp only [step_eqs]
    have h := hR m a st hg
    generalize R env m a st = o at h ⊢
    cases o with
    | ok v st1 => exact J.rewindInput (J.refl st) h
    | fail st1 => exact h
    | _ => trivial
  | map f a | toSpan a | mapWithSpan a | mapWithState a | mapWithCtx a =>
    exact (hR m a st hg).andThen fun v st1 => J.refl st1
  | to v a | ignored a | toSlice a => exact (hR .check a st hg).andThen fun v st1 => J.refl st1
  | filter p a =>
    refine (hR .emit a st hg).bind fun v st1 h1 => ?_
    split
    · exact h1
    · exact J.expected _ h1
  | tryMap f a =>
    simp only [step_eqs]
    have h := hR .emit a { st with alt := none } hg
    generalize R env .emit a { st with alt := none } = o at h ⊢
    cases o with
    | fail st1 => exact J.shelterFail h
    | ok v st1 =>
      simp only []
      split
      · exact J.shelterUser _ h
      · exact J.shelterOk h
    | _ => trivial
  | tryMapWith f a =>
    refine (hR .emit a st hg).bind fun v st1 h1 => ?_
    split
    · exact J.user _ h1 (Or.inr rfl)
    · exact h1
  | validate f a =>
    refine (hR .emit a st hg).bind fun v st1 h1 => ?_
    show J.ok st _
    split
    · exact J.emitted _ _ h1
    · exact h1
  | collect k it => exact (hK m it st hg).andThen fun ist st1 => collectLoop_sat hN m hg k L st1 ist [] 0
  | collectExactly n it =>
    exact (hK m it st hg).andThen fun ist st1 => collectExactlyLoop_sat J hN m hg n st1 ist []
  | foldl f a it | foldlWith a it =>
    obtain ⟨ha, hit⟩ := cls_and.mp hg
    exact (hR m a st ha).andThen fun va st1 => (hK m it st1 hit).andThen fun ist st2 =>
      foldlLoop_sat hN m hit _ L st2 ist va
  | foldr f it b | foldrWith it b =>
    obtain ⟨hit, hb⟩ := cls_and.mp hg
    simp only [step_eqs]
    have h := hK m it st hit
    generalize K env m it st = o at h ⊢
    cases o with
    | ok ist st1 =>
      refine Out.Sat.trans h (foldrCollect_sat hN m hit ?_ L st1 ist [])
      exact fun items st2 => (hR m b st2 hb).andThen fun vb st3 => J.refl st3
    | fail st1 => exact h
    | _ => trivial
  | iterP it =>
    have loop : ∀ ap, (match K env .check it st with
        | .ok ist st1 => iterLoop N env it ap L st1 ist
        | .fail st1 => .fail st1
        | .panic w => .panic w
        | .oof => .oof).Sat J.toRunRel st :=
      fun ap => (hK .check it st hg).andThen fun ist st1 => iterLoop_sat hN hg ap L st1 ist
    cases it with
    | repeated a lo hi =>
      cases lo with
      | zero =>
        cases hi with
        | none => exact repeatFast_sat (a := a) hR hg L st
        | some h => exact loop true
      | succ lo => exact loop true
    | separatedBy a sep lo hi lead trail => exact loop true
    | configureRep c inner | tryConfigureRep c inner => exact loop false
    | intoIter a => exact (hR .check a st hg).andThen fun v st1 => J.refl st1
    | _ => trivial
  | not_ a | recoverVia a r | recoverSkipUntil a skip until_ fb | recoverSkipRetry a skip until_ | labelled l asCtx a
  | mapErr k a | memoized id a => exact absurd hg Bool.false_ne_true
  | withCtx cv a => exact ((hR m a { st with ctx := cv } hg).restoreCtx _).left ⟨rfl, rfl, rfl, rfl⟩
  | ignoreWithCtx a b =>
    obtain ⟨ha, hb⟩ := cls_and.mp hg
    exact (hR .emit a st ha).andThen fun va st1 =>
      ((hR m b { st1 with ctx := va } hb).restoreCtx _).left ⟨rfl, rfl, rfl, rfl⟩
  | thenWithCtx a b =>
    obtain ⟨ha, hb⟩ := cls_and.mp hg
    exact (hR .emit a st ha).andThen fun va st1 =>
      Out.Sat.andThen (((hR m b { st1 with ctx := va } hb).restoreCtx _).left ⟨rfl, rfl, rfl, rfl⟩) fun vb st2 =>
        J.refl st2
  | mapCtx f a => exact ((hR m a { st with ctx := f.eval st.ctx } hg).restoreCtx _).left ⟨rfl, rfl, rfl, rfl⟩
  | configureJust c ts => exact justRun_sat J _ _ st
  | withState a => exact ((hR m a { st with insp := [] } hg).restoreInsp _).left ⟨rfl, rfl, rfl, rfl⟩
  | call k =>
    simp only [step_eqs]
    cases hd : env.defs[k]? with
    | none => trivial
    | some d => exact hR m d st (hdefs d (List.mem_of_getElem? hd))
  | boxed a => exact hR m a st hg

section next
variable {env : Env} {R : Runner} {N : NextRunner} {K : MkRunner}

theorem repeatedNext_sat (hR : SatR I env R) (m : Mode) {a : G} (ha : a.cls I.nec = true) (lo : Nat)
    (hi : Option Nat) (st : St) (n : Nat) (wrap : ItSt → ItSt) :
    (repeatedNext R env m a lo hi st n wrap).Sat I st := by
  simp only [repeatedNext]
  split
  · exact I.refl st
  · have h := hR m a st ha
    generalize R env m a st = o at h ⊢
    cases o with
    | ok v st1 => exact h
    | fail st1 =>
      simp only []
      split
      · exact I.recover h
      · exact I.failRewind h
    | _ => trivial

/-- the `item` part of `SeparatedBy::next`, started in `st0` (after the separator, if there was one) -/
theorem sepItem_sat (hR : SatR I env R) (m : Mode) {a : G} (ha : a.cls I.nec = true) (lo n : Nat) (trail : Bool)
    {st st0 : St} (h0 : I.ok st st0) :
    (match R env m a st0 with
      | .ok v st1 => ItOut.some v st1 (.cnt (n + 1))
      | .fail st1 =>
        if n < lo then .fail (st1.rewind st.save)
        else if trail then .done (st1.rewind st0.save) (.cnt n)
        else .done (st1.rewind st.save) (.cnt n)
      | .panic w => .panic w
      | .oof => .oof).Sat I st := by
  have h := hR m a st0 ha
  generalize R env m a st0 = o at h ⊢
  cases o with
  | ok v st1 => exact I.trans h0 h
  | fail st1 =>
    simp only []
    split
    · exact I.failRewind (I.transF h0 h)
    · split
      · exact I.trans h0 (I.recover h)
      · exact I.recover (I.transF h0 h)
  | _ => trivial

/-- the separator part: a leading separator is optional, one between items is not -/
theorem sepBranch_sat {o : Out} (h : o.Sat I st) {item : St → ItOut} (hitem : ∀ st0, I.ok st st0 → (item st0).Sat I st)
    (lead between : Prop) [Decidable lead] [Decidable between] (lo n : Nat) :
    (if lead then
      match (generalizing := false) o with
      | .ok _ st1 => item st1
      | .fail st1 => item (st1.rewind st.save)
      | .panic w => .panic w
      | .oof => .oof
    else if between then
      match (generalizing := false) o with
      | .ok _ st1 => item st1
      | .fail st1 => if n < lo then .fail (st1.rewind st.save) else .done (st1.rewind st.save) (.cnt n)
      | .panic w => .panic w
      | .oof => .oof
    else item st).Sat I st := by
  split
  · cases o with
    | ok v st1 => exact hitem st1 h
    | fail st1 => exact hitem _ (I.recover h)
    | _ => trivial
  · split
    · cases o with
      | ok v st1 => exact hitem st1 h
      | fail st1 =>
        simp only []
        split
        · exact I.failRewind h
        · exact I.recover h
      | _ => trivial
    · exact hitem st (I.refl st)

theorem separatedNext_sat (hR : SatR I env R) (m : Mode) {a sep : G} (ha : a.cls I.nec = true)
    (hs : sep.cls I.nec = true) (lo : Nat) (hi : Option Nat) (lead trail : Bool) (st : St) (n : Nat) :
    (separatedNext R env m a sep lo hi lead trail st n).Sat I st := by
  unfold separatedNext
  split
  · exact I.refl st
  · exact sepBranch_sat (hR .check sep st hs) (fun st0 h0 => sepItem_sat hR m ha lo n trail h0)
      ((n == 0 && lead) = true) (n > 0) lo n

theorem stepNext_sat (hR : SatR I env R) (hN : SatN I env N) (hK : SatK I env K) :
    SatN I env (stepNext R N K) := by
  intro m it st ist hit
  cases it with
  | repeated a lo hi =>
    cases ist with
    | cnt n => exact repeatedNext_sat hR m hit lo hi st n id
    | _ => trivial
  | separatedBy a sep lo hi lead trail =>
    obtain ⟨ha, hs⟩ := cls_and.mp hit
    cases ist with
    | cnt n => exact separatedNext_sat hR m ha hs lo hi lead trail st n
    | _ => trivial
  | enumerate inner =>
    cases ist with
    | enum k s =>
      simp only [step_eqs]
      have h := hN m inner st s hit
      generalize N env m inner st s = o at h ⊢
      cases o <;> exact h
    | _ => trivial
  | orNotIt a =>
    cases ist with
    | fin b =>
      simp only [step_eqs]
      split
      · exact I.refl st
      · have h := hR m a st hit
        generalize R env m a st = o at h ⊢
        cases o with
        | ok v st1 => exact h
        | fail st1 => exact I.recover h
        | _ => trivial
    | _ => trivial
  | intoIter a =>
    cases ist with
    | into vs => cases vs <;> exact I.refl st
    | _ => trivial
  | thenIt a b =>
    obtain ⟨ha, hb⟩ := cls_and.mp hit
    cases ist with
    | thn sa sb? =>
      cases sb? with
      | some sb =>
        simp only [step_eqs]
        have h := hN m b st sb hb
        generalize N env m b st sb = o at h ⊢
        cases o <;> exact h
      | none =>
        simp only [step_eqs]
        have h := hN m a st sa ha
        generalize N env m a st sa = o at h ⊢
        cases o with
        | some v st1 s1 => exact h
        | fail st1 => exact h
        | done st1 sa1 =>
          -- the first iterator is exhausted: make the second one and ask it
          simp only []
          have h2 := (hK m b st1 hb).trans h
          generalize K env m b st1 = o2 at h2 ⊢
          cases o2 with
          | fail st2 => exact h2
          | ok sb st2 =>
            simp only []
            have h3 := (hN m b st2 sb hb).trans h2
            generalize N env m b st2 sb = o3 at h3 ⊢
            cases o3 <;> exact h3
          | _ => trivial
        | _ => trivial
    | _ => trivial
  | mapIt f inner =>
    simp only [step_eqs]
    have h := hN m inner st ist hit
    generalize N env m inner st ist = o at h ⊢
    cases o <;> exact h
  | configureRep c inner | tryConfigureRep c inner =>
    cases inner with
    | repeated a lo hi =>
      cases ist with
      | cfg s clo chi =>
        cases s with
        | cnt n =>
          simp only [step_eqs]
          exact repeatedNext_sat hR m hit _ _ st n _
        | _ => trivial
      | _ => trivial
    | _ => trivial

end next

theorem stepMk_sat {env : Env} (J : RunInv env) {R : Runner} {K : MkRunner} (hR : SatR J.toRunRel env R)
    (hK : SatK J.toRunRel env K) : SatK J.toRunRel env (stepMk R K) := by
  intro m it st hit
  cases it with
  | repeated a lo hi | separatedBy a sep lo hi lead trail | orNotIt a => exact J.refl st
  | enumerate inner | configureRep c inner =>
    simp only [stepMk]
    have h := hK m inner st hit
    generalize K env m inner st = o at h ⊢
    cases o <;> exact h
  | intoIter a =>
    simp only [stepMk]
    have h := hR .emit a st hit
    generalize R env .emit a st = o at h ⊢
    cases o <;> exact h
  | thenIt a b =>
    simp only [stepMk]
    have h := hK m a st (cls_and.mp hit).1
    generalize K env m a st = o at h ⊢
    cases o <;> exact h
  | mapIt f inner => exact hK m inner st hit
  | tryConfigureRep c inner =>
    simp only [stepMk]
    cases st.ctx.asNat? with
    | none => exact J.user _ (J.refl st) (Or.inl rfl)
    | some n =>
      simp only []
      have h := hK m inner st hit
      generalize K env m inner st = o at h ⊢
      cases o <;> exact h

theorem run_sat {env : Env} (J : RunInv env) (hdefs : ∀ d ∈ env.defs, d.cls J.nec = true) (n : Nat) :
    SatR J.toRunRel env (run n) ∧ SatN J.toRunRel env (next n) ∧ SatK J.toRunRel env (mkIter n) := by
  induction n with
  | zero => exact ⟨fun _ _ _ _ => trivial, fun _ _ _ _ _ => trivial, fun _ _ _ _ => trivial⟩
  | succ n ih =>
    exact ⟨step_sat J hdefs ih.1 ih.2.1 ih.2.2 n, stepNext_sat ih.1 ih.2.1 ih.2.2, stepMk_sat J ih.1 ih.2.2⟩

end Chumsky
