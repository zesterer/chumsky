/-
  C04 for `nested_in` at any position of any grammar: check = erase ∘ emit through `NestedIn::go` over an arbitrary runner
  (the token parser `b` runs in emit mode under both, the inner parse in the caller's mode).
-/
import ChumskyModel.Model.Nested
import ChumskyModel.Proofs.Lemmas.ModeSim
namespace Chumsky

theorem innerThenEndM_erase (ra : Out) (rend : St → Out) :
    innerThenEndM ra.erase rend = (innerThenEndM ra rend).erase :=
  Out.andThen_modeSim rfl fun _ _ => Out.andThen_erase fun _ _ => rfl

theorem nestedMerge_erase (env : Env) (st1 : St) (ro : Out) :
    (match ro.erase with
      | .ok va si => .ok va (nestedMerge env st1 si)
      | .fail si => .fail (nestedMerge env st1 si)
      | .panic w => .panic w
      | .oof => .oof : Out) =
    (match ro with
      | .ok va si => .ok va (nestedMerge env st1 si)
      | .fail si => .fail (nestedMerge env st1 si)
      | .panic w => .panic w
      | .oof => .oof : Out).erase := by
  cases ro <;> rfl

theorem nestedStep_modeSim {R : Runner} (hR : ModeSimR R) (h : HEnv) (env : Env) (st : St) :
    nestedStepM R h env .check st = (nestedStepM R h env .emit st).erase := by
  unfold nestedStepM
  cases R env .emit h.b st with
  | ok vb st1 =>
    dsimp only
    cases h.kidsOf vb with
    | none => rfl
    | some kids =>
      dsimp only
      rw [hR (h.innerEnv env kids) h.a, innerThenEndM_erase]
      exact nestedMerge_erase env st1 _
  | _ => rfl

end Chumsky
