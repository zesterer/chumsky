/-
  C03 for grammars with extensions (`EEnv`: Pratt tables and nested-input parsers containing each other): the result contract of
  `parse` / `check` — no output ⇒ at least one error, error-free ⇒ output, rejection ⇔ the reading fails on the whole input.
-/
import ChumskyModel.Proofs.Lemmas.ExtAll
namespace Chumsky

theorem parseTopE_no_output_has_error (e : EEnv) (n : Nat) (env : Env) (m : Mode) (g : G) (r : ParseResult) (f : St)
    (h : parseTopE e n env m g = .result r f) (ho : r.output = none) : r.errs ≠ [] :=
  Out.top_no_output (parseTopE_eq_top e n env m g ▸ h) ho

theorem parseTopE_error_free_has_output (e : EEnv) (n : Nat) (env : Env) (m : Mode) (g : G) (r : ParseResult) (f : St)
    (h : parseTopE e n env m g = .result r f) (he : r.errs = []) : r.output.isSome = true := by
  cases ho : r.output with
  | some v => rfl
  | none => exact absurd he (parseTopE_no_output_has_error e n env m g r f h ho)

theorem parseTopE_reject_iff (e : EEnv) (n : Nat) (env : Env) (m : Mode) (g : G) (hm : env.memoOn = false)
    (r : ParseResult) (f : St) (h : parseTopE e n env m g = .result r f) :
    r.output = none ↔ pegTopE e n env g = .fail :=
  (h ▸ parseTopE_refines e n env m g hm).reject_iff

theorem parseTopE_whole_input (e : EEnv) (n : Nat) (env : Env) (m : Mode) (g : G) (hm : env.memoOn = false)
    (r : ParseResult) (f : St) (h : parseTopE e n env m g = .result r f) (v : Val) (ho : r.output = some v)
    (he : r.errs = []) :
    ∃ v' s, pegTopE e n env g = .ok v' s [] ∧ v = m.bind v' ∧ f.pos = s.pos :=
  (h ▸ parseTopE_refines e n env m g hm).whole_input ho he


end Chumsky
