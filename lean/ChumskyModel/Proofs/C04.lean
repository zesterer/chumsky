/-
  C04 — check mode and internal output elision are unobservable.

  Property theorems only (lemmas: Proofs/Lemmas/ModeSim.lean).
-/
import ChumskyModel.Proofs.Lemmas.ModeSim
import ChumskyModel.Proofs.Lemmas.ExtAll
namespace Chumsky

/-- **C04 (runs).** For every grammar of the whole object language (no hypothesis), every environment, state
    and fuel: running in `check` mode is running in `emit` mode with the output value erased — same outcome kind,
    identical position, secondary errors, pending error, inspector, context, memo table (and ghost log). -/
theorem c04_check_eq_emit (n : Nat) (env : Env) (g : G) (st : St) :
    run n env .check g st = (run n env .emit g st).erase :=
  run_check_eq_erase_emit n env g st

/-- **C04 (top level).** `check(input)` accepts exactly when `parse(input)` does and returns the identical
    list of errors (and leaves the identical final state). -/
theorem c04_check_eq_parse (n : Nat) (env : Env) (g : G) :
    parseTop n env .check g = match parseTop n env .emit g with
      | .result r final => .result ⟨r.output.map (fun _ => Val.unit), r.errs⟩ final
      | o => o :=
  parseTop_check_eq n env g

/-- consequence: same acceptance, same errors -/
theorem c04_accept_iff (n : Nat) (env : Env) (g : G) (rc re : ParseResult) (fc fe : St)
    (hc : parseTop n env .check g = .result rc fc) (he : parseTop n env .emit g = .result re fe) :
    (rc.output.isSome = re.output.isSome) ∧ rc.errs = re.errs ∧ fc = fe := by
  have h := c04_check_eq_parse n env g
  rw [hc, he] at h
  simp only [TopOut.result.injEq] at h
  obtain ⟨h1, h2⟩ := h
  subst h1 h2
  cases re.output <;> simp

theorem c04_panic_iff (n : Nat) (env : Env) (g : G) (w : Nat) :
    parseTop n env .check g = .panic w ↔ parseTop n env .emit g = .panic w := by
  have h := c04_check_eq_parse n env g
  cases he : parseTop n env .emit g <;> simp [he] at h ⊢ <;> simp [h]

/-! ### value-building formulations (`.boxed` is the identity wrapper; it only aligns the fuel) -/

/-- `a.ignore_then(b) ≡ a.then(b).map(|(_, b)| b)` -/
theorem c04_ignore_then (n : Nat) (env : Env) (m : Mode) (a b : G) (st : St) :
    run (n + 2) env m (.map .snd (.then_ a b)) st = run (n + 1) env m (.ignoreThen a b) st := by
  cases m
  · simp only [run, step_eqs, Out.andThen]
    rw [run_check_eq_erase_emit]
    cases run n env .emit a st <;> simp [Out.erase]
    rename_i va st1
    cases run n env .emit b st1 <;> simp [MapFn.eval]
  · simp only [run, step_eqs, Out.andThen]
    cases run n env .check a st <;> simp
    rename_i va st1
    have := @run_check_ok_unit n env b st1
    cases h : run n env .check b st1 <;> simp
    exact (this h).symm

/-- `a.then_ignore(b) ≡ a.then(b).map(|(a, _)| a)` -/
theorem c04_then_ignore (n : Nat) (env : Env) (m : Mode) (a b : G) (st : St) :
    run (n + 2) env m (.map .fst (.then_ a b)) st = run (n + 1) env m (.thenIgnore a b) st := by
  cases m
  · simp only [run, step_eqs, Out.andThen]
    cases run n env .emit a st <;> simp
    rename_i va st1
    rw [run_check_eq_erase_emit]
    cases run n env .emit b st1 <;> simp [Out.erase, MapFn.eval]
  · simp only [run, step_eqs, Out.andThen]
    have := @run_check_ok_unit n env a st
    cases h : run n env .check a st <;> simp
    rename_i va st1
    cases run n env .check b st1 <;> simp
    exact (this h).symm

/-- `a.ignored() ≡ a.to(())` -/
theorem c04_ignored (n : Nat) (env : Env) (m : Mode) (a : G) (st : St) :
    run (n + 1) env m (.ignored a) st = run (n + 1) env m (.to .unit a) st := by
  simp only [run, step_eqs]
  cases run n env .check a st <;> simp [Out.andThen, bind_unit]

/-- `a.delimited_by(l, r) ≡ l.ignore_then(a).then_ignore(r)` -/
theorem c04_delimited_by (n : Nat) (env : Env) (m : Mode) (a l r : G) (st : St) :
    run (n + 2) env m (.thenIgnore (.ignoreThen l a) (.boxed r)) st = run (n + 1) env m (.delimitedBy a l r) st := by
  simp only [run, step_eqs, Out.andThen]
  cases run n env .check l st <;> simp
  rename_i v1 st1
  cases run n env m a st1 <;> simp

/-- `a.padded_by(p) ≡ p.ignore_then(a).then_ignore(p)` -/
theorem c04_padded_by (n : Nat) (env : Env) (m : Mode) (a p : G) (st : St) :
    run (n + 2) env m (.thenIgnore (.ignoreThen p a) (.boxed p)) st = run (n + 1) env m (.paddedBy a p) st := by
  simp only [run, step_eqs, Out.andThen]
  cases run n env .check p st <;> simp
  rename_i v1 st1
  cases run n env m a st1 <;> simp

/-! ### Pratt parsers (`Model/Pratt.lean`) -/

/-- **C04 for `atom.pratt(ops)`.** Every operator table over arbitrary atom / operator grammars, every `min_power`,
    state and fuel: check = erase ∘ emit (the fold callbacks are the only thing check mode skips). -/
theorem c04_pratt_check_eq_emit (fuel : Nat) (env : Env) (atom : G) (ops : List PrattOp) (st : St) :
    runPratt fuel env .check atom ops st = (runPratt fuel env .emit atom ops st).erase :=
  runPratt_modeSim fuel env atom ops st

/-- the same for recursive expression grammars `recursive(|e| atom.pratt(ops))`, at every grammar position -/
theorem c04_recursive_pratt_check_eq_emit (x : XEnv) (n : Nat) (env : Env) (g : G) (st : St) :
    runX x n env .check g st = (runX x n env .emit g st).erase :=
  (runX_modeSim x n).1 env g st

/-- non-vacuity: a concrete non-trivial grammar on which check and parse both run to completion -/
example : parseTop 20 { toks := [97, 98] } .check (.then_ (.just [97]) (.orNot (.just [98]))) =
    .result ⟨some .unit, []⟩ { pos := 2, insp := [97, 98] } := by decide

#print axioms c04_check_eq_emit
#print axioms c04_check_eq_parse
#print axioms c04_accept_iff
#print axioms c04_panic_iff
#print axioms c04_ignore_then
#print axioms c04_then_ignore
#print axioms c04_ignored
#print axioms c04_delimited_by
#print axioms c04_padded_by
#print axioms c04_pratt_check_eq_emit
#print axioms c04_recursive_pratt_check_eq_emit
end Chumsky
