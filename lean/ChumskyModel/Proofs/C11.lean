/-
  C11 — memoization is transparent and makes left recursion terminate.

  STATEMENT: for grammars of the C01/C02 classes (context-free of `ctx`) without left recursion, with pairwise distinct
  memoized parsers, inserting `memoized()` at any subset of nodes leaves outcome, value, position, errors and the pending
  error (up to the order of `expected`) unchanged; a left-recursive grammar whose recursive step is memoized terminates.

  PROVED (Lemmas/MemoFull.lean, on top of MemoSim/MemoOff/Summ/AltInv): the full transparency theorem by
  induction on fuel and cases on EVERY constructor of the syntactic class `G.memoSafe` — all primitives, sequencing, tuple and
  slice choice, `or_not`, `not`, `and_is`, `rewind`, value maps, `filter`, `try_map(_with)`, span/slice captures, `validate`,
  every iteration consumer over every iterable parser, `labelled`/`as_context`, `map_err`, `boxed`, `with_state`, and
  `memoized` at any node — for an ARBITRARY sheltered pending error (the offset relation `MRel`), preserving the table
  invariant. Hypotheses: `memoSafe`, pairwise distinct ids (`memoIds.Nodup`). Outside the class, each with a kernel-checked
  counterexample or reason: context readers (`cex_ctx`: the key is (position, parser)), recovery strategies under
  `memoized` (`cex_recovery`: they read the pending error that `memoized` shelters), `call` (a hit saves fuel, so ON and OFF
  cannot be compared at equal fuel: `cex_fuel`; left recursion is `c11_left_recursion_witness`), and the four context
  providers (harmless, not done).
  REMAINING GAP (named `…_partial` below): for grammars that contain `validate`, on a FAILED parse only the primary error is
  related, not the whole secondary list (the `validate`-free class gets the full list).
  The model's memo semantics is the one of the repaired code (shelter the pending error, memoize only the parser's own
  contribution, replay at its own position, key = per-parser id); the check compares memoized and plain grammars on the real
  crate and the model with the real crate.
-/
import ChumskyModel.Proofs.Lemmas.MemoSim
import ChumskyModel.Proofs.Lemmas.MemoOff
import ChumskyModel.Proofs.Lemmas.MemoFull
namespace Chumsky

/-- **C11 (transparency), full statement for the `validate`-free class.** For every grammar of the class with pairwise
    distinct memoized parsers, every input, mode and fuel: `parse`/`check` of the grammar with its `memoized()` nodes equals
    `parse`/`check` of the same grammar with every `memoized()` removed — same acceptance, same output, and the whole error
    list pointwise equal up to the order of `expected` (`Err.equiv`). -/
theorem c11_transparent (N : Nat) (env : Env) (hon : env.memoOn = true) (g : G) (hg : g.memoSafe true = true)
    (hnd : g.memoIds.Nodup) (m : Mode) :
    TopMemoRelFull (parseTop N env m g)
      (parseTop N { env with memoOn := true, defs := stripMemoL env.defs } m g.stripMemo) :=
  parseTop_memo_vs_plain_full N env hon g hg hnd m

/-- **C11 (transparency) with `validate` in the class — partial in one clause.** Same acceptance and output; when there is
    an output the error lists are EQUAL (all emitted errors, in order); when there is none, the primary error is equal up
    to `Err.equiv` — missing: equality of the secondary errors that precede it on a failed parse. -/
theorem c11_transparent_with_validate_partial (N : Nat) (env : Env) (hon : env.memoOn = true) (g : G)
    (hg : g.memoSafe false = true) (hnd : g.memoIds.Nodup) (m : Mode) :
    TopMemoRel (parseTop N env m g)
      (parseTop N { env with memoOn := true, defs := stripMemoL env.defs } m g.stripMemo) :=
  parseTop_memo_vs_plain N env hon g hg hnd m

/-- the machine-level statement behind both: from any state with an empty table, the memoized and the unmemoized run
    agree on outcome, value, position, secondary errors, inspector, context and (up to ≈) the pending error -/
theorem c11_run_transparent (N : Nat) (env : Env) (hon : env.memoOn = true) (g : G) (hg : g.memoSafe false = true)
    (hnd : g.memoIds.Nodup) (m : Mode) (s : St) (hs : s.memo = []) :
    match run N env m g s, run N (env.withMemo false) m g s with
    | .ok v s1, .ok v' t1 => v = v' ∧ s1.pos = t1.pos ∧ s1.errs = t1.errs ∧ s1.insp = t1.insp ∧ s1.ctx = t1.ctx ∧
        OptLoc.equiv s1.alt t1.alt
    | .fail s1, .fail t1 => OptLoc.equiv s1.alt t1.alt ∧ s1.alt.isSome = true ∧ s.errs <+: s1.errs ∧ s.errs <+: t1.errs ∧
        s1.ctx = s.ctx ∧ t1.ctx = s.ctx
    | .panic w, .panic w' => w = w'
    | .oof, .oof => True
    | _, _ => False :=
  run_memo_transparent_empty N env hon g hg hnd m s hs

/-- non-vacuity: two memoized nodes, one of them under a repetition and around a `validate` -/
example : memoExample.memoSafe false = true ∧ memoExample.memoIds.Nodup := by decide

/-- **C11 (one node), partial.** See the header. `MRel`/`MOutRel`: equal position, secondary errors, inspector,
    context, values; pending errors equal up to `OptLoc.equiv` modulo the error the ON run has sheltered. -/
theorem c11_node_transparent_partial {R R' : Runner} {N N' : NextRunner} {K K' : MkRunner} (L : Nat)
    {env : Env} (hon : env.memoOn = true) {B : Nat → G → Prop} {Rof : Nat → Runner} {id : Nat} {a : G}
    (hRof : Rof id = R') (hB : B id a) (hB1 : ∀ a', B id a' → a' = a) (ids : Nat → Prop) (hid : ¬ ids id)
    (hPD : PosDetermined R' (env.withMemo false) a) (m : Mode)
    (hBody : ∀ (o : Option Loc) (s t : St), MRel env.ek o s t → TableInv B Rof (env.withMemo false) s.memo →
        (∀ p i, ids i → memoFind s.memo (p, i) ≠ some none) →
        MOutRel env.ek (TableOK B Rof (env.withMemo false) s.memo) o s.errs s.ctx
          (R env m a s) (R' (env.withMemo false) m a t))
    {o : Option Loc} {st t : St} (hrel : MRel env.ek o st t)
    (hTI : TableInv B Rof (env.withMemo false) st.memo)
    (hNoProg : ∀ p, memoFind st.memo (p, id) ≠ some none)
    (hNoProgA : ∀ p i, ids i → memoFind st.memo (p, i) ≠ some none) :
    MOutRel env.ek (TableOK B Rof (env.withMemo false) st.memo) o st.errs st.ctx
      (step R N K L env m (.memoized id a) st)
      (step R' N' K' L (env.withMemo false) m (.memoized id a) t) :=
  step_memoized_transparent L hon hRof hB hB1 ids hid hPD m hBody hrel hTI hNoProg hNoProgA

/-- a memo hit replays exactly what re-running the parser would contribute -/
theorem c11_hit_replays {R' : Runner} {env : Env} {a : G} {o : Option Loc} {st t : St} {e : Loc} (m : Mode)
    (hrel : MRel env.ek o st t) (hc : Contribution R' (env.withMemo false) a st.pos e) :
    ∃ t1, R' (env.withMemo false) m a t = .fail t1 ∧
      FRel env.ek o st.errs st.ctx (St.addAltErr env st e.pos e.err) t1 :=
  hit_replays m hrel hc

/-- memoization off = the grammar without its `memoized` nodes -/
theorem c11_memo_off_is_plain (n : Nat) (env : Env) (hoff : env.memoOn = false) (b : Bool) (m : Mode) (g : G) :
    parseTop n env m g = parseTop n { env with memoOn := b, defs := stripMemoL env.defs } m g.stripMemo :=
  parseTop_stripMemo n env hoff b m g

/-- left recursion: with the recursive step memoized the parse terminates (the in-progress marker cuts the second
    entry at the same position) where the unmemoized grammar does not — witness `expr = (expr 1).memoized | 2` -/
theorem c11_left_recursion_witness :
    let defs : List G := [.memoized 1 (.or_ (.then_ (.call 0) (.just [1])) (.just [2]))]
    (parseTop 30 { toks := [2], defs := defs, memoOn := true } .emit (.call 0)).accepted = some true ∧
    parseTop 30 { toks := [2], defs := defs, memoOn := false } .emit (.call 0) = .oof :=
  cex_leftRec

/-- necessity of "context-free": the memo key is (position, parser), so a memoized parser that reads its context
    gives a stale answer when re-used under another context at the same position (outside the property's class) -/
theorem c11_context_dependence_witness :
    let defs : List G := [.memoized 1 (.configureJust .seqFromCtx [])]
    let g : G := .choice .tuple [.withCtx (.toks [1]) (.call 0), .withCtx (.toks [2]) (.call 0)]
    (parseTop 20 { toks := [2], defs := defs, memoOn := true } .emit g).accepted = some false ∧
    (parseTop 20 { toks := [2], defs := defs, memoOn := false } .emit g).accepted = some true :=
  cex_ctx

/-- **the partial clause is tight** (kernel-checked witness, reproduced on the real crate — DESIGN §0.1, observations): a
    memoized parser that fails AFTER emitting (`validate`), shared through a definition and revisited at the same position
    under a slice-flavoured choice, is answered from the table without re-emitting, so the failed parse reports the primary
    error only, while the unmemoized grammar reports the emission too. Emitters are outside C11's C01/C02 class. -/
theorem c11_failed_emission_witness :
    let d : G := .then_ (.validate ⟨.always, 5, 1⟩ .any) (.just [122])
    let main : G := .choice .slice [.then_ (.call 0) (.just [120]), .then_ (.call 0) (.just [121])]
    (match parseTop 30 { toks := [97, 98], defs := [.memoized 1 d], memoOn := true } .emit main,
           parseTop 30 { toks := [97, 98], defs := [d], memoOn := true } .emit main with
      | .result r _, .result r' _ => (r.output, r.errs.length, r'.output, r'.errs.length)
      | _, _ => (none, 0, none, 0)) = (none, 1, none, 2) := by
  decide +kernel

#print axioms c11_failed_emission_witness
#print axioms c11_transparent
#print axioms c11_transparent_with_validate_partial
#print axioms c11_run_transparent
#print axioms c11_node_transparent_partial
#print axioms c11_hit_replays
#print axioms c11_memo_off_is_plain
#print axioms c11_left_recursion_witness
#print axioms c11_context_dependence_witness
end Chumsky
