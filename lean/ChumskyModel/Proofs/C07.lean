/-
  C07 — spans and slices are exact, well-formed and zero-copy.

  Three layers:
    (1) the machine hands every capture site the value the PEG reading computes (master refinement, every grammar);
    (2) in the reading, every capture site computes `Env.mkSpan p p'` / `(Env.off p, Env.off p')` from exactly the two
        positions between which its sub-parser matched, and `p ≤ p' ≤ |input|` (position invariant of the reading);
    (3) `mkSpan` is well formed for `p ≤ p' ≤ |input|` under each of the three span disciplines (`&[T]`-like indices,
        `&str` byte offsets, tokens carrying their own — possibly gapped — spans): non-inverted, inside the input, on character
        boundaries, nested in / ordered within the parent, an empty match gets an empty span between its neighbours.
  Pointer identity of slices ("same memory, no copy") has no counterpart in a model without addresses: it is observed by
  the harness (`slice.as_ptr() - input.as_ptr()`), the model states it as an offset range into the caller's buffer.
-/
import ChumskyModel.Proofs.Lemmas.Top
import ChumskyModel.Proofs.Lemmas.SpecInv
import ChumskyModel.Proofs.Lemmas.SpanWf
namespace Chumsky

/-! ### (1) machine = reading (spans are part of the output values) -/

/-- **C07 (exactness, machine side).** For every grammar, input kind and state the machine's output — which embeds every
    captured span and slice — is the reading's output (`check` mode: erased). -/
theorem c07_machine_spans (n : Nat) (env : Env) (m : Mode) (g : G) (st : St) (hm : env.memoOn = false) :
    Refines m st.errs st.ctx (run n env m g st) (peg n env g st.ss st.ctx) :=
  run_refines n env m g st hm

/-! ### (2) capture sites of the reading: the span of exactly what the sub-parser consumed -/

/-- a site that post-processes the match of `a` by `k`: the match is that of `a`, which moves forward and stays inside the
    input -/
theorem capture_site {n : Nat} {env : Env} {a : G} {s : SS} {ctx : Val} {k : Val → SS → List Emis → SOut} {v s' em}
    (h : (peg n env a s ctx).andThen k = .ok v s' em) :
    ∃ v0 s1 e1, peg n env a s ctx = .ok v0 s1 e1 ∧ k v0 s1 e1 = .ok v s' em ∧
      s.pos ≤ s1.pos ∧ (s.pos ≤ env.toks.length → s1.pos ≤ env.toks.length) := by
  cases ha : peg n env a s ctx <;> rw [ha] at h <;> try cases h
  have adv := peg_adv n env a s ctx ha
  exact ⟨_, _, _, rfl, h, adv.mono, adv.bound⟩

/-- `to_span` -/
theorem c07_to_span (n : Nat) (env : Env) (a : G) (s : SS) (ctx : Val) {v s' em}
    (h : peg (n + 1) env (.toSpan a) s ctx = .ok v s' em) :
    ∃ v0, peg n env a s ctx = .ok v0 s' em ∧ v = .span (env.mkSpan s.pos s'.pos).1 (env.mkSpan s.pos s'.pos).2 ∧
      s.pos ≤ s'.pos ∧ (s.pos ≤ env.toks.length → s'.pos ≤ env.toks.length) := by
  simp only [peg, step_eqs] at h
  obtain ⟨v0, _, _, ha, hk, hm, hb⟩ := capture_site h
  cases hk
  exact ⟨v0, ha, rfl, hm, hb⟩

/-- `map_with(|v, e| (v, e.span()))` -/
theorem c07_map_with_span (n : Nat) (env : Env) (a : G) (s : SS) (ctx : Val) {v s' em}
    (h : peg (n + 1) env (.mapWithSpan a) s ctx = .ok v s' em) :
    ∃ v0, peg n env a s ctx = .ok v0 s' em ∧
      v = .pair v0 (.span (env.mkSpan s.pos s'.pos).1 (env.mkSpan s.pos s'.pos).2) ∧
      s.pos ≤ s'.pos ∧ (s.pos ≤ env.toks.length → s'.pos ≤ env.toks.length) := by
  simp only [peg, step_eqs] at h
  obtain ⟨v0, _, _, ha, hk, hm, hb⟩ := capture_site h
  cases hk
  exact ⟨v0, ha, rfl, hm, hb⟩

/-- `to_slice`: the index range `[off p, off p')` of the caller's buffer -/
theorem c07_to_slice (n : Nat) (env : Env) (a : G) (s : SS) (ctx : Val) {v s' em}
    (h : peg (n + 1) env (.toSlice a) s ctx = .ok v s' em) :
    ∃ v0, peg n env a s ctx = .ok v0 s' em ∧ v = .slice (env.off s.pos) (env.off s'.pos) ∧
      s.pos ≤ s'.pos ∧ (s.pos ≤ env.toks.length → s'.pos ≤ env.toks.length) := by
  simp only [peg, step_eqs] at h
  obtain ⟨v0, _, _, ha, hk, hm, hb⟩ := capture_site h
  cases hk
  exact ⟨v0, ha, rfl, hm, hb⟩

/-- `validate`: every error it emits carries the span of what its parser consumed, and is recorded at the parser's start -/
theorem c07_validate_span (n : Nat) (env : Env) (f : ValFn) (a : G) (s : SS) (ctx : Val) {v s' em}
    (h : peg (n + 1) env (.validate f a) s ctx = .ok v s' em) :
    ∃ e1, peg n env a s ctx = .ok v s' e1 ∧
      em = (if f.emitIf.eval v then
              e1 ++ List.replicate f.count (.user ⟨s.pos, env.ek.userErr (env.mkSpan s.pos s'.pos) f.msg⟩)
            else e1) ∧ s.pos ≤ s'.pos := by
  simp only [peg, step_eqs] at h
  obtain ⟨_, _, e1, ha, hk, hm, _⟩ := capture_site h
  cases hk
  exact ⟨e1, ha, rfl, hm⟩

/-- for index-like and text inputs the slice returned by `to_slice` is the input at the span `to_span` reports -/
theorem c07_slice_eq_span (env : Env) (h : env.kind ≠ .mapped) (i j : Nat) :
    env.mkSpan i j = (env.off i, env.off j) := by
  cases hk : env.kind <;> simp [Env.mkSpan, Env.off, hk] at h ⊢

/-! ### (3) well-formedness of the span of a match `p ≤ p' ≤ |input|` -/

/-- a match that consumed nothing gets an empty span -/
theorem c07_empty_match (env : Env) (i : Nat) : (env.mkSpan i i).1 = (env.mkSpan i i).2 := by
  cases hk : env.kind <;> simp [Env.mkSpan, hk]

/-- tokens with their own spans: a non-empty match spans from the start of its first consumed token to the end of its last -/
theorem c07_mapped_nonempty (env : Env) (hk : env.kind = .mapped) (hw : env.Wf) {i j : Nat} (hij : i < j)
    (hj : j ≤ env.toks.length) :
    env.mkSpan i j = ((env.tspans[i]'(by have := (hw hk).1; omega)).1,
                      (env.tspans[j - 1]'(by have := (hw hk).1; omega)).2) :=
  mkSpan_mapped_nonempty env hk hij ((hw hk).1 ▸ hj)

/-- start ≤ end, for every input kind -/
theorem c07_start_le_end (env : Env) (hw : env.Wf) {i j : Nat} (hij : i ≤ j) (hj : j ≤ env.toks.length) :
    (env.mkSpan i j).1 ≤ (env.mkSpan i j).2 := by
  cases hk : env.kind with
  | slice => rw [mkSpan_slice env hk]; exact hij
  | str => rw [mkSpan_str env hk]; exact strOff_le_of_le _ hij
  | mapped =>
    rcases Nat.eq_or_lt_of_le hij with rfl | hlt
    · exact Nat.le_of_eq (c07_empty_match env i)
    · rw [c07_mapped_nonempty env hk hw hlt hj]
      exact Nat.le_trans ((hw hk).2.start_mono (Nat.le_sub_one_of_lt hlt) _) ((hw hk).2.each _ _)

/-- inside the input: index inputs end at the token count, text at the byte length, mapped inputs at the end-of-input span -/
theorem c07_inside (env : Env) (hw : env.Wf) {i j : Nat} (hij : i ≤ j) (hj : j ≤ env.toks.length) :
    (env.mkSpan i j).2 ≤ (match env.kind with
                          | .slice => env.toks.length
                          | .str => strLen env.toks
                          | .mapped => env.eoi.2) := by
  cases hk : env.kind with
  | slice => rw [mkSpan_slice env hk]; exact hj
  | str => rw [mkSpan_str env hk]; exact strOff_le_len _ hj
  | mapped =>
    obtain ⟨hlen, w⟩ := hw hk
    rcases Nat.eq_or_lt_of_le hij with rfl | hlt
    · rcases Nat.eq_zero_or_pos i with rfl | h0
      · rw [mkSpan_mapped_empty_zero env hk]
        cases h0' : env.tspans[0]? with
        | none => exact Nat.le_refl _
        | some sp =>
          obtain ⟨hl, rfl⟩ := List.getElem?_eq_some_iff.mp h0'
          exact Nat.le_trans (w.each 0 hl) (w.end_le_eoi 0 hl)
      · rw [mkSpan_mapped_empty_pos env hk h0 (hlen ▸ hj)]; exact w.end_le_eoi _ _
    · rw [c07_mapped_nonempty env hk hw hlt hj]; exact w.end_le_eoi _ _

/-- `&str`: both ends of every span are character boundaries (the UTF-8 length of a prefix of the characters),
    and a non-empty match has a non-empty byte range -/
theorem c07_str_boundaries (env : Env) (hk : env.kind = .str) (i j : Nat) :
    (env.mkSpan i j).1 = ((env.toks.take i).map utf8w).sum ∧ (env.mkSpan i j).2 = ((env.toks.take j).map utf8w).sum := by
  rw [mkSpan_str env hk]; exact ⟨strOff_eq_sum _ _, strOff_eq_sum _ _⟩

theorem c07_str_nonempty (env : Env) (hk : env.kind = .str) {i j : Nat} (hij : i < j) (hj : j ≤ env.toks.length) :
    (env.mkSpan i j).1 < (env.mkSpan i j).2 := by
  rw [mkSpan_str env hk]; exact strOff_lt_of_lt _ hij hj

/-- mapped tokens: an empty match gets an empty span lying between the preceding and the following token -/
theorem c07_mapped_empty_between (env : Env) (hk : env.kind = .mapped) (hw : env.Wf) {i : Nat} (hi : i ≤ env.toks.length) :
    ∃ x, env.mkSpan i i = (x, x) ∧
      (∀ (h : 0 < i), (env.tspans[i - 1]'(by have := (hw hk).1; omega)).2 ≤ x) ∧
      (∀ (h : i < env.toks.length), x ≤ (env.tspans[i]'(by have := (hw hk).1; omega)).1) := by
  obtain ⟨hlen, w⟩ := hw hk
  cases i with
  | zero =>
    rw [mkSpan_mapped_empty_zero env hk]
    cases h0 : env.tspans[0]? with
    | none => exact ⟨_, rfl, nofun, fun h => absurd (hlen ▸ h) (Nat.not_lt.mpr (List.getElem?_eq_none_iff.mp h0))⟩
    | some sp =>
      obtain ⟨_, rfl⟩ := List.getElem?_eq_some_iff.mp h0
      exact ⟨_, rfl, nofun, fun _ => Nat.le_refl _⟩
  | succ i =>
    refine ⟨_, mkSpan_mapped_empty_pos env hk (Nat.succ_pos i) (hlen ▸ hi), fun _ => Nat.le_refl _, fun h => ?_⟩
    exact w.next i (hlen ▸ h)

/-- nesting: the span of a non-empty sub-match lies inside the span of any match that contains it -/
theorem c07_nested (env : Env) (hw : env.Wf) {i i' j' j : Nat} (h1 : i ≤ i') (h2 : i' < j') (h3 : j' ≤ j)
    (hj : j ≤ env.toks.length) :
    (env.mkSpan i j).1 ≤ (env.mkSpan i' j').1 ∧ (env.mkSpan i' j').2 ≤ (env.mkSpan i j).2 := by
  cases hk : env.kind with
  | slice => simp only [mkSpan_slice env hk]; exact ⟨h1, h3⟩
  | str => simp only [mkSpan_str env hk]; exact ⟨strOff_le_of_le _ h1, strOff_le_of_le _ h3⟩
  | mapped =>
    have hij : i < j := Nat.lt_of_le_of_lt h1 (Nat.lt_of_lt_of_le h2 h3)
    rw [c07_mapped_nonempty env hk hw hij hj, c07_mapped_nonempty env hk hw h2 (Nat.le_trans h3 hj)]
    exact ⟨(hw hk).2.start_mono h1 _, (hw hk).2.end_mono (Nat.sub_le_sub_right h3 1) _⟩

/-- order: of two non-empty sub-matches one after the other, the first ends before the second starts -/
theorem c07_ordered (env : Env) (hw : env.Wf) {i j i' j' : Nat} (h1 : i < j) (h2 : j ≤ i') (h3 : i' < j')
    (hj : j' ≤ env.toks.length) :
    (env.mkSpan i j).2 ≤ (env.mkSpan i' j').1 := by
  cases hk : env.kind with
  | slice => simp only [mkSpan_slice env hk]; exact h2
  | str => simp only [mkSpan_str env hk]; exact strOff_le_of_le _ h2
  | mapped =>
    have hj' : j ≤ env.toks.length := Nat.le_trans h2 (Nat.le_trans (Nat.le_of_lt h3) hj)
    rw [c07_mapped_nonempty env hk hw h1 hj', c07_mapped_nonempty env hk hw h3 hj]
    exact (hw hk).2.end_le_start (Nat.lt_of_lt_of_le (Nat.sub_one_lt_of_lt h1) h2) _

/-! ### non-vacuity: the machine on concrete inputs, evaluated by the kernel -/

/-- gapped token spans (gap 3: token k covers [5k+3, 5k+5)), an empty match between two tokens and a non-empty one -/
example :
    (match parseTop 30 { toks := [97, 98], kind := .mapped, tspans := [(3, 5), (8, 10)], eoi := (13, 13), memoOn := false } .emit
        (.then_ (.just [97]) (.then_ (.toSpan .empty) (.toSpan (.just [98])))) with
      | .result r _ => r.output
      | _ => none) = some (.pair (.toks [97]) (.pair (.span 5 5) (.span 8 10))) := by
  decide

example : Env.Wf { toks := [97, 98], kind := .mapped, tspans := [(3, 5), (8, 10)], eoi := (13, 13) } := by
  refine fun _ => ⟨rfl, ⟨?_, ?_, ?_, Nat.le_refl _⟩⟩
  · intro k h; match k, h with | 0, _ | 1, _ => exact Nat.le_of_ble_eq_true rfl
  · intro k h; match k, h with | 0, _ => exact Nat.le_of_ble_eq_true rfl
  · intro k h; match k, h with | 0, _ | 1, _ => exact Nat.le_of_ble_eq_true rfl

/-- multi-byte text: `é` is two bytes, the clef four -/
example :
    (match parseTop 30 { toks := [233, 0x1D11E, 97], kind := .str, memoOn := false } .emit
        (.then_ (.toSlice .any) (.mapWithSpan (.then_ .any (.toSpan .any)))) with
      | .result r _ => r.output
      | _ => none) = some (.pair (.slice 0 2) (.pair (.pair (.tok 0x1D11E) (.span 6 7)) (.span 2 7))) := by
  decide

#print axioms c07_machine_spans
#print axioms c07_to_span
#print axioms c07_map_with_span
#print axioms c07_to_slice
#print axioms c07_validate_span
#print axioms c07_slice_eq_span
#print axioms c07_start_le_end
#print axioms c07_empty_match
#print axioms c07_inside
#print axioms c07_str_boundaries
#print axioms c07_str_nonempty
#print axioms c07_mapped_nonempty
#print axioms c07_mapped_empty_between
#print axioms c07_nested
#print axioms c07_ordered
end Chumsky
