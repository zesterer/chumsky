/-
  Proofs/C14.lean — property C14: the text parsers recognise exactly their documented languages.

  The text parsers are transcribed in `Model/Text.lean` as position functions over the `Char` class record (`CC`), one per
  parser of `text.rs`; the correspondence check of C14 runs those functions against the real parsers on every string of the
  generator. The theorems below are about those functions, for EVERY token list (no length bound), every radix and every
  class record unless an instance is named.

  "accepts s" = the parser, started at position 0 of `s`, ends at `s.length` (what `parse` demands: the parser followed
  by end-of-input).  The documented languages are stated as plain list predicates.
-/
import ChumskyModel.Proofs.Lemmas.TextLang

namespace Chumsky
open Text

/-! ### the documented languages -/

/-- one or more radix-`r` digits -/
def DigitsLang (cc : CC) (r : Nat) (s : List Nat) : Prop := s ≠ [] ∧ s.all (cc.isDigit r) = true
/-- a single zero, or a non-empty digit string whose first digit is not zero -/
def IntLang (cc : CC) (r : Nat) (s : List Nat) : Prop :=
  s = [cc.digitZero] ∨ (∃ c cs, s = c :: cs ∧ c ≠ cc.digitZero ∧ cc.isDigit r c = true ∧ cs.all (cc.isDigit r) = true)
/-- `start cont*` -/
def IdentLang (start cont : Nat → Bool) (s : List Nat) : Prop := ∃ c cs, s = c :: cs ∧ start c = true ∧ cs.all cont = true

/-! ### whitespace -/

/-- `whitespace()` never fails, consumes a run of whitespace and stops at the first other character (`inline_whitespace()` is the same run over `isInlineWs`) -/
theorem c14_whitespace_run (cc : CC) (toks : List Nat) (pos : Nat) :
    ∃ e, whitespace cc toks pos = some e ∧ pos ≤ e ∧
      ((toks.drop pos).take (e - pos)).all cc.isWs = true ∧ (∀ c, toks[e]? = some c → pos ≤ toks.length → cc.isWs c = false) :=
  ⟨_, rfl, skip_ge _ _ _, skip_all _ _ _, fun c hc _ => skip_stop _ _ _ c hc⟩

theorem c14_whitespace_accepts (cc : CC) (s : List Nat) :
    whitespace cc s 0 = some s.length ↔ s.all cc.isWs = true :=
  Option.some_inj.trans (skip_append_eq_length_iff cc.isWs [] s)

theorem c14_inline_whitespace_accepts (cc : CC) (s : List Nat) :
    inlineWhitespace cc s 0 = some s.length ↔ s.all cc.isInlineWs = true :=
  Option.some_inj.trans (skip_append_eq_length_iff cc.isInlineWs [] s)

/-! ### digits / int -/

theorem identLang_cons {start cont : Nat → Bool} {c : Nat} {cs : List Nat} :
    IdentLang start cont (c :: cs) ↔ start c = true ∧ cs.all cont = true :=
  ⟨fun ⟨_, _, h, hs, hc⟩ => by cases h; exact ⟨hs, hc⟩, fun ⟨hs, hc⟩ => ⟨c, cs, rfl, hs, hc⟩⟩

/-- a parser of the shape `headRun` accepts exactly `start cont*` -/
theorem headRun_accepts (start cont : Nat → Bool) (s : List Nat) :
    headRun start cont s 0 = some s.length ↔ IdentLang start cont s := by
  cases s with
  | nil => exact ⟨nofun, nofun⟩
  | cons c cs =>
    rw [identLang_cons, headRun_eq_some, ← skip_append_eq_length_iff cont [c] cs]
    exact ⟨fun ⟨_, h0, h⟩ => by cases h0; exact h, fun h => ⟨c, rfl, h⟩⟩

theorem c14_digits_accepts (cc : CC) (r : Nat) (s : List Nat) :
    digits cc r s 0 = some s.length ↔ DigitsLang cc r s := by
  rw [digits_eq_headRun, headRun_accepts]
  cases s with
  | nil => exact ⟨nofun, fun h => absurd rfl h.1⟩
  | cons c cs => simp [identLang_cons, DigitsLang]

theorem c14_int_accepts (cc : CC) (r : Nat) (s : List Nat) :
    int cc r s 0 = some s.length ↔ IntLang cc r s := by
  cases s with
  | nil => exact ⟨nofun, fun h => by rcases h with h | ⟨_, _, h, _⟩ <;> cases h⟩
  | cons c cs =>
    rw [int_eq, List.getElem?_cons_zero]
    by_cases hz : c = cc.digitZero
    · subst hz
      rw [if_pos rfl]
      constructor
      · intro h
        cases cs with
        | nil => exact Or.inl rfl
        | cons _ _ => simp at h
      · rintro (h | ⟨_, _, h, hne, _⟩) <;> cases h
        · rfl
        · exact absurd rfl hne
    · rw [if_neg (fun h => hz (Option.some.inj h)), c14_digits_accepts, DigitsLang, List.all_cons, Bool.and_eq_true]
      constructor
      · rintro ⟨_, hd, hcs⟩; exact Or.inr ⟨c, cs, rfl, hz, hd, hcs⟩
      · rintro (h | ⟨_, _, h, _, hd, hcs⟩) <;> cases h
        · exact absurd rfl hz
        · exact ⟨List.cons_ne_nil _ _, hd, hcs⟩

/-- no superfluous leading zero: after a leading zero `int` stops at once, so `"0d…"` is never accepted -/
theorem c14_int_leading_zero (cc : CC) (r : Nat) (pos : Nat) (toks : List Nat)
    (h : toks[pos]? = some cc.digitZero) : int cc r toks pos = some (pos + 1) := by
  rw [int_eq, if_pos h]

/-- `digits` (and with it `int`) is greedy: it stops only at a non-digit -/
theorem c14_digits_maximal (cc : CC) (r : Nat) (toks : List Nat) (pos e c : Nat)
    (h : digits cc r toks pos = some e) (hc : toks[e]? = some c) : cc.isDigit r c = false :=
  headRun_stop h hc

/-! ### identifiers and keywords -/

/-- `ascii::ident` accepts exactly `[A-Za-z_][A-Za-z0-9_]*` -/
theorem c14_ascii_ident_accepts (cc : CC) (s : List Nat) :
    asciiIdent cc s 0 = some s.length ↔ IdentLang (isAsciiIdentStart cc) (isAsciiIdentCont cc) s :=
  headRun_accepts _ _ s

/-- `unicode::ident` accepts exactly `(XID_Start | _) XID_Continue*` -/
theorem c14_unicode_ident_accepts (cc : CC) (s : List Nat) :
    unicodeIdent cc s 0 = some s.length ↔ IdentLang cc.isIdentStart cc.isIdentCont s :=
  headRun_accepts _ _ s

/-- for `char` the ASCII identifier classes are literally `[A-Za-z_]` and `[A-Za-z0-9_]` -/
theorem c14_ascii_classes_char (c : Nat) :
    isAsciiIdentStart charCC c = (decide (c < 128) && (asciiAlpha c || c == 95)) ∧
    isAsciiIdentCont charCC c = (decide (c < 128) && (asciiAlnum c || c == 95)) := by
  unfold isAsciiIdentStart isAsciiIdentCont charCC
  by_cases h : c < 128 <;> simp [h]

/-- the identifier found at the position IS `k`, and identifiers are matched greedily (maximal munch), so the character
    after the match cannot continue an identifier -/
theorem keywordOf_headRun_exact {start cont : Nat → Bool} {k toks : List Nat} {pos e : Nat}
    (h : keywordOf (headRun start cont) k toks pos = some e) :
    headRun start cont toks pos = some e ∧ (toks.drop pos).take (e - pos) = k ∧
      (∀ c, toks[e]? = some c → cont c = false) :=
  have ⟨hi, hk⟩ := keywordOf_eq_some.mp h
  ⟨hi, hk, fun _ hc => headRun_stop hi hc⟩

/-- a keyword parser accepts a whole string iff the string is `k` and its identifier parser accepts it -/
theorem keywordOf_accepts (ident : List Nat → Nat → Option Nat) (k s : List Nat) :
    keywordOf ident k s 0 = some s.length ↔ s = k ∧ ident s 0 = some s.length := by
  rw [keywordOf_eq_some, List.drop_zero, Nat.sub_zero, List.take_length]
  exact And.comm

/-- `keyword(k)`: the identifier found at the position IS `k` — so a keyword is never accepted as a proper prefix of a
    longer identifier (the character after the match cannot continue an identifier), and the match has `k`'s length -/
theorem c14_keyword_exact (cc : CC) (k toks : List Nat) (pos e : Nat)
    (h : asciiKeyword cc k toks pos = some e) :
    asciiIdent cc toks pos = some e ∧ (toks.drop pos).take (e - pos) = k ∧
      (∀ c, toks[e]? = some c → isAsciiIdentCont cc c = false) :=
  keywordOf_headRun_exact h

theorem c14_unicode_keyword_exact (cc : CC) (k toks : List Nat) (pos e : Nat)
    (h : unicodeKeyword cc k toks pos = some e) :
    unicodeIdent cc toks pos = some e ∧ (toks.drop pos).take (e - pos) = k ∧
      (∀ c, toks[e]? = some c → cc.isIdentCont c = false) :=
  keywordOf_headRun_exact h

/-- `keyword(k)` accepts a whole string iff the string is `k` and `k` is an identifier -/
theorem c14_keyword_accepts (cc : CC) (k s : List Nat) :
    asciiKeyword cc k s 0 = some s.length ↔ s = k ∧ IdentLang (isAsciiIdentStart cc) (isAsciiIdentCont cc) s := by
  rw [← c14_ascii_ident_accepts]; exact keywordOf_accepts _ k s

theorem c14_unicode_keyword_accepts (cc : CC) (k s : List Nat) :
    unicodeKeyword cc k s 0 = some s.length ↔ s = k ∧ IdentLang cc.isIdentStart cc.isIdentCont s := by
  rw [← c14_unicode_ident_accepts]; exact keywordOf_accepts _ k s

/-! ### newline -/

theorem newline_single (cc : CC) (c : Nat) :
    newline cc [c] 0 = some 1 ↔ cc.toAscii c = some 13 ∨ cc.isNewline c = true := by
  show (if cc.toAscii c == some 13 then some 1 else if cc.isNewline c then some 1 else none) = some 1 ↔ _
  rw [← beq_iff_eq (a := cc.toAscii c)]
  cases cc.toAscii c == some 13 <;> cases cc.isNewline c <;> simp

theorem newline_pair (cc : CC) (c d : Nat) (rest : List Nat) :
    newline cc (c :: d :: rest) 0 = some (rest.length + 2) ↔
      rest = [] ∧ cc.toAscii c = some 13 ∧ cc.toAscii d = some 10 := by
  show (if cc.toAscii c == some 13 then (if cc.toAscii d == some 10 then some 2 else some 1)
          else if cc.isNewline c then some 1 else none) = some (rest.length + 2) ↔ _
  rw [← beq_iff_eq (a := cc.toAscii c), ← beq_iff_eq (a := cc.toAscii d)]
  cases cc.toAscii c == some 13 <;> cases cc.toAscii d == some 10 <;> cases cc.isNewline c <;> simp

/-- for any class record, `newline` accepts a CR, a character of the newline class, and CR LF -/
theorem newline_accepts (cc : CC) (s : List Nat) :
    newline cc s 0 = some s.length ↔
      match s with
      | [c] => cc.toAscii c = some 13 ∨ cc.isNewline c = true
      | [c, d] => cc.toAscii c = some 13 ∧ cc.toAscii d = some 10
      | _ => False :=
  match s with
  | [] => ⟨nofun, nofun⟩
  | [c] => newline_single cc c
  | [c, d] => (newline_pair cc c d []).trans (and_iff_right rfl)
  | c :: d :: e :: rest => (newline_pair cc c d (e :: rest)).trans ⟨fun h => (nomatch h.1), nofun⟩

theorem charCC_toAscii {c b : Nat} (h : charCC.toAscii c = some b) : c = b := by
  change (if c < 128 then some c else none) = some b at h
  split at h <;> cases h
  rfl

/-- `newline` on `&str` accepts exactly the eight documented terminators (CR LF as one unit) -/
theorem c14_newline_accepts (s : List Nat) :
    newline charCC s 0 = some s.length ↔
      s ∈ [[13, 10], [10], [13], [11], [12], [0x85], [0x2028], [0x2029]] := by
  constructor
  · rw [newline_accepts]
    match s with
    | [c] =>
      rintro (hc | hc)
      · cases charCC_toAscii hc; decide
      · simp only [charCC, Bool.or_eq_true, beq_iff_eq] at hc
        rcases hc with (((((rfl | rfl) | rfl) | rfl) | rfl) | rfl) | rfl <;> decide
    | [c, d] => rintro ⟨hc, hd⟩; cases charCC_toAscii hc; cases charCC_toAscii hd; decide
    | [] | _ :: _ :: _ :: _ => nofun
  · revert s; decide

/-- CR LF is one line terminator, on both instances -/
theorem c14_crlf_one_unit (cc : CC) (h13 : cc.toAscii 13 = some 13) (h10 : cc.toAscii 10 = some 10) (rest : List Nat) :
    newline cc (13 :: 10 :: rest) 0 = some 2 := by
  simp [newline, h13, h10]

/-! ### padded -/

/-- `p.padded()` skips whitespace only: what it skips before and after `p` are runs of whitespace, `p` starts exactly where the
    leading run ends, and the trailing run is maximal -/
theorem c14_padded (cc : CC) (p : List Nat → Nat → Option Nat) (toks : List Nat) (pos s e f : Nat)
    (h : padded cc p toks pos = some (s, e, f)) :
    s = skip cc.isWs toks pos ∧ p toks s = some e ∧ f = skip cc.isWs toks e ∧
      ((toks.drop pos).take (s - pos)).all cc.isWs = true ∧ ((toks.drop e).take (f - e)).all cc.isWs = true := by
  unfold padded at h
  cases hp : p toks (skip cc.isWs toks pos) with
  | none => simp [hp] at h
  | some e' =>
    simp only [hp, Option.some.injEq, Prod.mk.injEq] at h
    obtain ⟨rfl, rfl, rfl⟩ := h
    exact ⟨rfl, hp, rfl, skip_all _ _ _, skip_all _ _ _⟩

/-- conversely `ws* m ws*` is accepted whenever `p` matches `m` there and `m` does not begin with whitespace -/
theorem c14_padded_accepts (cc : CC) (p : List Nat → Nat → Option Nat) (w1 m w2 : List Nat)
    (hw1 : w1.all cc.isWs = true) (hw2 : w2.all cc.isWs = true)
    (hm : ∀ c, (m ++ w2)[0]? = some c → m ≠ [] ∧ cc.isWs c = false)
    (hp : p (w1 ++ m ++ w2) w1.length = some (w1.length + m.length)) :
    padded cc p (w1 ++ m ++ w2) 0 = some (w1.length, w1.length + m.length, (w1 ++ m ++ w2).length) := by
  have hs : skip cc.isWs (w1 ++ m ++ w2) 0 = w1.length := by
    rw [skip_eq, List.drop_zero, List.append_assoc, runLen_append_of_all _ _ _ hw1]
    have : runLen cc.isWs (m ++ w2) = 0 := by
      cases hmw : m ++ w2 with
      | nil => rfl
      | cons c cs => simp [runLen, (hm c (by simp [hmw])).2]
    rw [this]; exact Nat.zero_add _
  have he : skip cc.isWs (w1 ++ m ++ w2) (w1.length + m.length) = (w1 ++ m ++ w2).length := by
    rw [← List.length_append]; exact (skip_append_eq_length_iff _ _ _).mpr hw2
  unfold padded
  simp only [hs, hp, he]

/-! ### the slice returned is the matched range; agreement of the two instances on ASCII text -/

theorem newline_lt {cc : CC} {toks : List Nat} {pos e : Nat} (h : newline cc toks pos = some e) : pos < e := by
  unfold newline at h
  repeat' split at h
  all_goals cases h
  all_goals omega

/-- every text parser returns an end position at or after its start (the slice `[start, end)` is well formed) -/
theorem c14_end_ge_start (cc : CC) (r : Nat) (toks : List Nat) (pos e : Nat) :
    (int cc r toks pos = some e → pos < e) ∧ (digits cc r toks pos = some e → pos < e) ∧
    (asciiIdent cc toks pos = some e → pos < e) ∧ (unicodeIdent cc toks pos = some e → pos < e) ∧
    (newline cc toks pos = some e → pos < e) := by
  refine ⟨fun h => ?_, headRun_lt, headRun_lt, headRun_lt, newline_lt⟩
  rw [int_eq] at h
  split at h
  · cases h; exact Nat.lt_succ_self pos
  · exact headRun_lt h

/-- the class records of `char` and `u8` agree on every ASCII code point (decided over all 128, every radix) -/
theorem c14_classes_agree_on_ascii (c : Nat) (hc : c < 128) :
    charCC.isWs c = u8CC.isWs c ∧ charCC.isInlineWs c = u8CC.isInlineWs c ∧ charCC.isNewline c = u8CC.isNewline c ∧
    (∀ r, charCC.isDigit r c = u8CC.isDigit r c) ∧ charCC.isIdentStart c = u8CC.isIdentStart c ∧
    charCC.isIdentCont c = u8CC.isIdentCont c ∧ charCC.toAscii c = u8CC.toAscii c ∧ charCC.digitZero = u8CC.digitZero := by
  refine ⟨?_, rfl, ?_, fun _ => rfl, rfl, rfl, by simp [charCC, u8CC, hc], rfl⟩
  · have : ∀ c : Fin 128, charCC.isWs c.val = u8CC.isWs c.val := by decide +kernel
    exact this ⟨c, hc⟩
  · have : ∀ c : Fin 128, charCC.isNewline c.val = u8CC.isNewline c.val := by decide +kernel
    exact this ⟨c, hc⟩

/-- hence on ASCII text every text parser gives the same result on `&str` and on `&[u8]` -/
theorem c14_ascii_agree (toks : List Nat) (hascii : ∀ c ∈ toks, c < 128) (r pos : Nat) (k : List Nat) :
    whitespace charCC toks pos = whitespace u8CC toks pos ∧
    inlineWhitespace charCC toks pos = inlineWhitespace u8CC toks pos ∧
    digits charCC r toks pos = digits u8CC r toks pos ∧
    int charCC r toks pos = int u8CC r toks pos ∧
    asciiIdent charCC toks pos = asciiIdent u8CC toks pos ∧
    unicodeIdent charCC toks pos = unicodeIdent u8CC toks pos ∧
    asciiKeyword charCC k toks pos = asciiKeyword u8CC k toks pos ∧
    unicodeKeyword charCC k toks pos = unicodeKeyword u8CC k toks pos ∧
    newline charCC toks pos = newline u8CC toks pos ∧
    padded charCC (int charCC r) toks pos = padded u8CC (int u8CC r) toks pos := by
  have h := fun c hc => c14_classes_agree_on_ascii c (hascii c hc)
  have hws : ∀ c ∈ toks, charCC.isWs c = u8CC.isWs c := fun c hc => (h c hc).1
  have hasc : ∀ c ∈ toks, charCC.toAscii c = u8CC.toAscii c := fun c hc => (h c hc).2.2.2.2.2.2.1
  have hai : asciiIdent charCC toks pos = asciiIdent u8CC toks pos :=
    headRun_congr pos (fun c hc => by unfold isAsciiIdentStart; rw [hasc c hc])
      (fun c hc => by unfold isAsciiIdentCont; rw [hasc c hc])
  have hui : unicodeIdent charCC toks pos = unicodeIdent u8CC toks pos :=
    headRun_congr pos (fun c hc => (h c hc).2.2.2.2.1) (fun c hc => (h c hc).2.2.2.2.2.1)
  have hd : ∀ c ∈ toks, charCC.isDigit r c = u8CC.isDigit r c := fun c hc => (h c hc).2.2.2.1 r
  refine ⟨?_, ?_, headRun_congr pos hd hd, int_congr r pos rfl hd, hai, hui, ?_, ?_, ?_, ?_⟩
  · unfold whitespace; rw [skip_congr _ _ toks pos hws]
  · unfold inlineWhitespace; rw [skip_congr _ _ toks pos (fun c hc => (h c hc).2.1)]
  · unfold asciiKeyword keywordOf; rw [hai]
  · unfold unicodeKeyword keywordOf; rw [hui]
  · exact newline_congr pos hasc (fun c hc => (h c hc).2.2.1)
  · exact padded_congr pos hws (fun i => int_congr r i rfl hd)

/-! ### non-vacuity: concrete members and non-members, evaluated by the kernel -/

example : int charCC 10 [49, 52, 53, 50] 0 = some 4 := by decide
example : int charCC 10 [48, 52] 0 = some 1 := by decide                 -- "04": stops after the zero, so `parse` rejects
example : IntLang charCC 16 [50, 65] := Or.inr ⟨50, [65], rfl, by decide, by decide, by decide⟩
example : asciiKeyword charCC [105, 102] [105, 102, 120] 0 = none := by decide   -- "if" is not accepted in "ifx"
example : newline charCC [13, 10, 97] 0 = some 2 := by decide
example : padded charCC (int charCC 10) [32, 49, 50, 32, 10] 0 = some (1, 3, 5) := by decide
example : whitespace u8CC [11, 32] 0 = some 2 := by decide               -- vertical tab (the repaired D11)

/-- **bounded whitespace counts characters** (`whitespace()` / `inline_whitespace()` return a `Repeated`, so `.at_least(lo)`,
    `.at_most(hi)`, `.exactly(n)` apply to single characters): the match takes `min hi (length of the run)` characters and
    exists iff that is at least `lo` — a run is never treated as one item -/
theorem c14_whitespace_bounded (cc : CC) (lo hi : Nat) (toks : List Nat) (pos : Nat) :
    whitespaceB cc lo hi toks pos =
      if lo ≤ min hi (runLen cc.isWs (toks.drop pos)) then some (pos + min hi (runLen cc.isWs (toks.drop pos))) else none :=
  boundedRun_eq cc.isWs lo hi toks pos

theorem c14_inline_whitespace_bounded (cc : CC) (lo hi : Nat) (toks : List Nat) (pos : Nat) :
    inlineWhitespaceB cc lo hi toks pos =
      if lo ≤ min hi (runLen cc.isInlineWs (toks.drop pos)) then some (pos + min hi (runLen cc.isInlineWs (toks.drop pos)))
      else none :=
  boundedRun_eq cc.isInlineWs lo hi toks pos

/-- e.g. `whitespace().at_least(2)` accepts two spaces, `whitespace().exactly(3)` takes three of four -/
example : whitespaceB charCC 2 1000 [32, 32] 0 = some 2 ∧ whitespaceB charCC 3 3 [32, 9, 32, 32] 0 = some 3 ∧
    whitespaceB charCC 2 1000 [32, 97] 0 = none := by decide

#print axioms c14_whitespace_bounded
#print axioms c14_inline_whitespace_bounded
#print axioms c14_whitespace_run
#print axioms c14_whitespace_accepts
#print axioms c14_inline_whitespace_accepts
#print axioms c14_digits_accepts
#print axioms c14_int_accepts
#print axioms c14_int_leading_zero
#print axioms c14_digits_maximal
#print axioms c14_ascii_ident_accepts
#print axioms c14_unicode_ident_accepts
#print axioms c14_ascii_classes_char
#print axioms c14_keyword_exact
#print axioms c14_unicode_keyword_exact
#print axioms c14_keyword_accepts
#print axioms c14_unicode_keyword_accepts
#print axioms c14_newline_accepts
#print axioms c14_crlf_one_unit
#print axioms c14_padded
#print axioms c14_padded_accepts
#print axioms c14_end_ge_start
#print axioms c14_classes_agree_on_ascii
#print axioms c14_ascii_agree

end Chumsky
