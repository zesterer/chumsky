/-
  C09 — Pratt parsing respects binding power and associativity and preserves token order.

  `Model/Pratt.lean`: the machine `prattGo` (checkpoints, rewinds, declaration order; `pratt.rs`) and the reading `sPratt`
  (the textbook binding-power recursion). Tuple, `Vec` and boxed operator tables are one table (a list) in the model;
  that they behave identically is checked on the real crate. Lemmas: Proofs/Lemmas/PrattRefine.lean.
-/
import ChumskyModel.Proofs.Lemmas.ExtAll
import ChumskyModel.Proofs.Lemmas.PrattRefine
namespace Chumsky

/-- **C09 (refinement).** For every operator table (any parsers as atom and operators, any powers and
    associativities, any order), every input and state: `atom.pratt(ops)` — with its rewinds after operators whose
    operand is missing — has the outcome, tree, end position and emissions of the textbook reading. -/
theorem c09_refines (fuel : Nat) (env : Env) (m : Mode) (atom : G) (ops : List PrattOp) (st : St)
    (hm : env.memoOn = false) :
    Refines m st.errs st.ctx (runPratt fuel env m atom ops st) (pegPratt fuel env atom ops st.ss st.ctx) :=
  runPratt_refines fuel env m atom ops st hm

theorem c09_parse (fuel : Nat) (env : Env) (m : Mode) (atom : G) (ops : List PrattOp) (hm : env.memoOn = false) :
    TopRefines m (parseTopPratt fuel env m atom ops) (pegTopPratt fuel env atom ops) :=
  parseTopPratt_refines fuel env m atom ops hm

/-- binding powers as the code computes them -/
theorem c09_powers (x : Nat) :
    leftPower true x = 2 * x ∧ rightPower true x = 2 * x + 1 ∧
    leftPower false x = 2 * x + 1 ∧ rightPower false x = 2 * x :=
  powers_eq x

/-- equal powers: a left-associative operator is not admitted inside the right operand of itself (groups to the
    left); a right-associative one is (groups to the right) -/
theorem c09_assoc (bp : Nat) :
    ¬ (leftPower true bp ≥ rightPower true bp) ∧ leftPower false bp ≥ rightPower false bp :=
  ⟨leftAssoc_stops bp, rightAssoc_continues bp⟩

/-- different powers: a looser operator never enters the right operand of a tighter one; a tighter one always does -/
theorem c09_precedence {bp1 bp2 : Nat} (h : bp1 < bp2) (la1 la2 : Bool) :
    ¬ (leftPower la1 bp1 ≥ rightPower la2 bp2) ∧ leftPower la2 bp2 ≥ rightPower la1 bp1 :=
  ⟨looser_stops h la1 la2, tighter_continues h la1 la2⟩

/-- **shape.** Every result of the reading is the value of a trace tree that is *power-respecting*: every operator
    applied at the top level of a (sub)expression parsed with `min_power = p` has left power ≥ p, every right operand
    respects the right power of its operator, every prefix operand respects `2·bp` — "an operator captures an
    operand only if the operand's operators bind at least as tightly". -/
theorem c09_shape {P : G → SS → SOut} {env : Env} {atom : G} {ops : List PrattOp} {k minP : Nat} {s : SS} {v : Val}
    {s' : SS} {em : List Emis} (h : sPratt P env atom ops k minP s = .ok v s' em) :
    ∃ t, tPratt P env atom ops k minP s = .ok t s' em ∧ t.val = v ∧ Shape ops minP t :=
  sPratt_shape h

/-- consequences of the shape: no left-associative operator directly right-nested in itself, no looser operator at
    the top of the right operand of a tighter one -/
theorem c09_left_assoc_never_right_nested {ops : List PrattOp} {p bp : Nat} {lhs l2 r2 : PTree} {op o2 : Val}
    {sp sp2 : Nat × Nat} (h : Shape ops p (.inf true bp lhs op (.inf true bp l2 o2 r2 sp2) sp)) : False :=
  h.leftAssoc_not_right_nested

theorem c09_no_looser_in_right_operand {ops : List PrattOp} {p bp1 bp2 : Nat} {la1 la2 : Bool} {lhs l2 r2 : PTree}
    {op o2 : Val} {sp sp2 : Nat × Nat} (hlt : bp1 < bp2)
    (h : Shape ops p (.inf la2 bp2 lhs op (.inf la1 bp1 l2 o2 r2 sp2) sp)) : False :=
  Shape.no_looser_in_rhs hlt h

/-- **maximality / missing operand.** Where the expression ends, no postfix operator of the table matches, and
    every infix operator either does not match or matches but its right operand cannot be parsed — in which case it
    is left unconsumed. -/
theorem c09_maximal {fuel : Nat} {env : Env} {atom : G} {ops : List PrattOp} {s : SS} {ctx v : Val} {s' : SS}
    {em : List Emis} (h : pegPratt fuel env atom ops s ctx = .ok v s' em) :
    (∀ bp op, PrattOp.postfix bp op ∈ ops → peg fuel env op s' ctx = .fail) ∧
    (∀ la bp op, PrattOp.infix la bp op ∈ ops →
      peg fuel env op s' ctx = .fail ∨
      ∃ opv s1 e1, peg fuel env op s' ctx = .ok opv s1 e1 ∧
        sPratt (fun g s => peg fuel env g s ctx) env atom ops (fuel - 1) (rightPower la bp) s1 = .fail) :=
  pegPratt_maximal h

/-- **token order.** For token-level tables, flattening the tree yields exactly the consumed tokens, in order
    (reading, and machine in emit mode). -/
theorem c09_flatten {fuel : Nat} {env : Env} (hm : env.memoOn = false) {atom : G} {ops : List PrattOp}
    (hatom : TokenAtom atom) (hops : ∀ o ∈ ops, TokenOp o) {st : St} {v : Val} {st' : St}
    (h : runPratt fuel env .emit atom ops st = .ok v st') :
    st.pos ≤ st'.pos ∧ flatten v = (env.toks.drop st.pos).take (st'.pos - st.pos) :=
  runPratt_flatten hm hatom hops h

/-- non-vacuity: `-x^y^x + y` with `+` left/1, `^` right/2, prefix `-`/3 -/
example :
    (match parseTopPratt 40 { toks := [45, 120, 94, 121, 94, 120, 43, 121], memoOn := false } .emit (.oneOf [120, 121])
        [.infix true 1 (.just [43]), .infix false 2 (.just [94]), .prefix 3 (.just [45])] with
      | .result r f => (r.output.map flatten, r.errs.length, f.pos)
      | _ => (none, 99, 0)) = (some [45, 120, 94, 121, 94, 120, 43, 121], 0, 8) := by
  decide +kernel

/-! ### recursive expression grammars: `recursive(|e| atom.pratt(ops))`

  `Model/Pratt.lean`, `XEnv`: inside the atom and the operator parsers `.call hole` is the whole expression again
  (parenthesised sub-expressions, call arguments, ternaries). The machine is the ordinary machine with `pratt_go` at the
  hole, the reading is the ordinary PEG reading with the textbook algorithm at the hole. -/

/-- **C09 (refinement, recursive tables).** For every table whose atom and operators are arbitrary grammars that may
    mention the expression itself, at every grammar position, mode, state and fuel: machine ⊑ reading. -/
theorem c09_recursive_refines (x : XEnv) (fuel : Nat) (env : Env) (m : Mode) (g : G) (st : St)
    (hm : env.memoOn = false) :
    Refines m st.errs st.ctx (runX x fuel env m g st) (pegX x fuel env g st.ss st.ctx) :=
  runX_refines x fuel env m g st hm

theorem c09_recursive_parse (x : XEnv) (fuel : Nat) (env : Env) (m : Mode) (hm : env.memoOn = false) :
    TopRefines m (parseTopX x fuel env m) (pegTopX x fuel env) :=
  parseTopX_refines x fuel env m hm

/-- every (sub-)expression of the reading, at whatever parenthesis depth, is the textbook algorithm over the reading
    of its atom / operator parsers, hence a power-respecting tree -/
theorem c09_recursive_shape (x : XEnv) {n : Nat} {env : Env} {s : SS} {ctx v : Val} {s' : SS} {em : List Emis}
    (h : pegX x (n + 1) env (.call x.hole) s ctx = .ok v s' em) :
    ∃ t, tPratt (fun g s => pegX x n env g s ctx) env x.atom x.ops n 0 s = .ok t s' em ∧ t.val = v ∧
      Shape x.ops 0 t :=
  pegX_shape x h

/-- non-vacuity: `(x+y)*-(y)` with `+` left/1, `*` left/2, prefix `-`/3 and a parenthesised atom: accepted, whole input
    consumed, no error; and `(x+y` is rejected with one error -/
example :
    let x : XEnv := { hole := 0, atom := .or_ (.oneOf [120, 121]) (.delimitedBy (.call 0) (.just [40]) (.just [41])),
                      ops := [.infix true 1 (.just [43]), .infix true 2 (.just [42]), .prefix 3 (.just [45])] }
    (match parseTopX x 60 { toks := [40, 120, 43, 121, 41, 42, 45, 40, 121, 41], memoOn := false } .emit with
      | .result r f => (r.output.isSome, r.errs.length, f.pos)
      | _ => (false, 99, 0)) = (true, 0, 10) ∧
    (match parseTopX x 60 { toks := [40, 120, 43, 121], memoOn := false } .emit with
      | .result r _ => (r.output.isSome, r.errs.length)
      | _ => (true, 99)) = (false, 1) := by
  decide +kernel

/-- **Pratt tables among other extensions** (`EEnv`: several tables, nested-input parsers, each referring to the others): at a
    reference to a table the reading IS the textbook binding-power algorithm over atom and operator parsers read by `pegE`
    again — so an atom may be a nested group, an operator may contain another table — and the machine refines it -/
theorem c09_extensions_reading (e : EEnv) (n : Nat) (env : Env) (g atom : G) (ops : List PrattOp)
    (hf : e.find g = some (.pratt atom ops)) (s : SS) (ctx : Val) :
    pegE e (n + 1) env g s ctx = sPratt (fun g s => pegE e n env g s ctx) env atom ops n 0 s := by
  simp only [pegE, hf]

theorem c09_extensions_refines (e : EEnv) (n : Nat) (env : Env) (m : Mode) (g : G) (st : St) (hm : env.memoOn = false) :
    Refines m st.errs st.ctx (runE e n env m g st) (pegE e n env g st.ss st.ctx) :=
  runE_refines e n env m g st hm

#print axioms c09_extensions_reading
#print axioms c09_extensions_refines
#print axioms c09_refines
#print axioms c09_recursive_refines
#print axioms c09_recursive_parse
#print axioms c09_recursive_shape
#print axioms c09_parse
#print axioms c09_powers
#print axioms c09_assoc
#print axioms c09_precedence
#print axioms c09_shape
#print axioms c09_left_assoc_never_right_nested
#print axioms c09_no_looser_in_right_operand
#print axioms c09_maximal
#print axioms c09_flatten
end Chumsky
