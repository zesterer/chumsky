import ChumskyModel.Model.Basic
import ChumskyModel.Model.Error
import ChumskyModel.Model.Machine
import ChumskyModel.Model.Spec
import ChumskyModel.Proofs.Lemmas.StepEqns
import ChumskyModel.Proofs.Lemmas.PegLaws
import ChumskyModel.Proofs.Lemmas.StateOps
import ChumskyModel.Proofs.Lemmas.Refine
import ChumskyModel.Proofs.Lemmas.StepRefine
import ChumskyModel.Proofs.Lemmas.IterRefine
import ChumskyModel.Proofs.Lemmas.ErrRefine
import ChumskyModel.Proofs.Lemmas.Master
import ChumskyModel.Proofs.Lemmas.Top
import ChumskyModel.Proofs.Lemmas.ModeSim
import ChumskyModel.Proofs.Lemmas.Summ
import ChumskyModel.Proofs.Lemmas.RepSpec
import ChumskyModel.Proofs.Lemmas.SpecInv
import ChumskyModel.Proofs.C01
import ChumskyModel.Proofs.C02
import ChumskyModel.Proofs.C03
import ChumskyModel.Proofs.C04
import ChumskyModel.Proofs.C05
import ChumskyModel.Proofs.C08
import ChumskyModel.Proofs.C15
import ChumskyModel.Proofs.C18
import ChumskyModel.Proofs.Lemmas.NecClass
import ChumskyModel.Proofs.Lemmas.RunInv
import ChumskyModel.Proofs.Lemmas.AltInv
import ChumskyModel.Proofs.Lemmas.ErrWf
import ChumskyModel.Proofs.Lemmas.DescSim
import ChumskyModel.Proofs.C06
import ChumskyModel.Proofs.C13
import ChumskyModel.Proofs.C17
import ChumskyModel.Model.Pratt
import ChumskyModel.Model.Text
import ChumskyModel.Proofs.Lemmas.PrattTable
import ChumskyModel.Proofs.Lemmas.PrattRefine
import ChumskyModel.Proofs.Lemmas.Total
import ChumskyModel.Proofs.Lemmas.Unroll
import ChumskyModel.Proofs.Lemmas.MemoSim
import ChumskyModel.Proofs.Lemmas.MemoOff
import ChumskyModel.Proofs.C09
import ChumskyModel.Proofs.C11
import ChumskyModel.Proofs.C12
import ChumskyModel.Proofs.C20
import ChumskyModel.Proofs.Lemmas.TextLang
import ChumskyModel.Proofs.C14
import ChumskyModel.Model.Drops
import ChumskyModel.Proofs.C19
import ChumskyModel.Proofs.Lemmas.SpanWf
import ChumskyModel.Proofs.C07
import ChumskyModel.Model.Input
import ChumskyModel.Proofs.C10
import ChumskyModel.Model.Nested
import ChumskyModel.Proofs.Lemmas.NestedRefine
import ChumskyModel.Proofs.C16
import ChumskyModel.Model.Delims
import ChumskyModel.Proofs.Lemmas.NestedDelims
import ChumskyModel.Proofs.Lemmas.Guarded
import ChumskyModel.Proofs.Lemmas.KindSim
import ChumskyModel.Proofs.Lemmas.MemoFull
import ChumskyModel.Proofs.Lemmas.PrattMode
import ChumskyModel.Proofs.Lemmas.PrattTotal
import ChumskyModel.Proofs.Lemmas.PrattAlt
import ChumskyModel.Proofs.Lemmas.PrattInv
import ChumskyModel.Proofs.Lemmas.PrattKind
import ChumskyModel.Proofs.Lemmas.PrattTerm
import ChumskyModel.Proofs.Lemmas.NestedHole
import ChumskyModel.Proofs.Lemmas.NestedMode
import ChumskyModel.Proofs.Lemmas.NestedAlt
import ChumskyModel.Model.Ext
import ChumskyModel.Proofs.Lemmas.ExtAll
import ChumskyModel.Proofs.Lemmas.ExtTotal
import ChumskyModel.Proofs.Lemmas.ExtResult
import ChumskyModel.Proofs.Lemmas.ExtDeco
import ChumskyModel.Proofs.Lemmas.ExtDecoS
import ChumskyModel.Proofs.Lemmas.ExtRep
import ChumskyModel.Proofs.Lemmas.NestedOk
import ChumskyModel.Proofs.Lemmas.ExtKind
import ChumskyModel.Proofs.Lemmas.ExtBridge
